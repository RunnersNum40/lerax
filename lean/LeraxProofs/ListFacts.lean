/-
  General list facts: lists of rows flattened (`flatten_axes` / `reshape(-1)` in the sources:
  length and entries for rows of one common length `n`, occurrences of an entry), reading a
  window of a list by index, entry `t` (`headD`, `getD`) as determined by the first `t+1` entries,
  recursive functions that are a `zipWith` (`eq_zipWith_of_eqns`) and what holds of every entry of
  one (`forall_mem_zipWith`), induction over two or three lists of one length (`list_induction₂`,
  `list_induction₃`), and what a fold does to a counter that every step advances by one
  (`foldl_counter`).
-/
namespace Lerax.ListFacts

variable {β : Type}

/-- `reshape(-1)` of `rows.length` rows of width `n` has `rows.length * n` entries -/
theorem length_flatten_uniform (n : Nat) (xss : List (List β)) (h : ∀ xs ∈ xss, xs.length = n) :
    xss.flatten.length = xss.length * n := by
  induction xss with
  | nil => exact (Nat.zero_mul n).symm
  | cons xs rest ih =>
      rw [List.forall_mem_cons] at h
      rw [List.flatten_cons, List.length_append, List.length_cons, Nat.succ_mul, h.1, ih h.2,
        Nat.add_comm]

/-- … and entry `j` of row `e` lands at `e * n + j` -/
theorem getElem?_flatten_uniform (n : Nat) (xss : List (List β)) (h : ∀ xs ∈ xss, xs.length = n)
    (e j : Nat) (hj : j < n) :
    xss.flatten[e * n + j]? = (xss[e]?).bind (fun xs => xs[j]?) := by
  induction xss generalizing e with
  | nil => rfl
  | cons xs rest ih =>
      obtain ⟨rfl, h⟩ := List.forall_mem_cons.mp h
      rw [List.flatten_cons]
      cases e with
      | zero =>
          rw [Nat.zero_mul, Nat.zero_add, List.getElem?_append_left hj]
          rfl
      | succ e =>
          rw [Nat.succ_mul, Nat.add_right_comm, List.getElem?_append_right (Nat.le_add_left _ _),
            Nat.add_sub_cancel, List.getElem?_cons_succ]
          exact ih h e

/-- rows given as `l.map f`: entry `j` of the row made from `l[e]` -/
theorem getElem?_flatten_map_uniform {γ : Type} (n : Nat) (f : γ → List β) (l : List γ)
    (h : ∀ x ∈ l, (f x).length = n) {e j : Nat} (he : e < l.length) (hj : j < n) :
    (l.map f).flatten[e * n + j]? = (f l[e])[j]? := by
  rw [getElem?_flatten_uniform n _ (List.forall_mem_map.mpr h) e j hj, List.getElem?_map,
    List.getElem?_eq_getElem he, Option.map_some, Option.bind_some]

/-- an entry that occurs at most `k` times in each row occurs at most `length * k` times in all -/
theorem count_flatten_le [BEq β] {l : List (List β)} (a : β) (k : Nat)
    (h : ∀ r ∈ l, r.count a ≤ k) : l.flatten.count a ≤ l.length * k := by
  induction l with
  | nil => exact Nat.zero_le _
  | cons r rs ih =>
      rw [List.forall_mem_cons] at h
      rw [List.flatten_cons, List.count_append, List.length_cons, Nat.succ_mul, Nat.add_comm]
      exact Nat.add_le_add (ih h.2) h.1

/-- reading `m` consecutive entries from index `k` on, up to the end of `l`, gives `l.drop k` -/
theorem filterMap_range_eq_drop (l : List β) (f : Nat → Option β) (k m : Nat)
    (hk : k + m = l.length) (hf : ∀ i, i < m → f i = l[k + i]?) :
    (List.range m).filterMap f = l.drop k := by
  induction m generalizing k f with
  | zero =>
      rw [List.range_zero, List.filterMap_nil,
        List.drop_eq_nil_of_le (i := k) (Nat.le_of_eq hk.symm)]
  | succ m ih =>
      have hlt : k < l.length := by omega
      rw [List.range_succ_eq_map, List.filterMap_cons_some (b := l[k]), List.filterMap_map,
        List.drop_eq_getElem_cons hlt]
      · congr 1
        exact ih (f ∘ Nat.succ) (k + 1) (by omega) (fun i hi => by
          rw [Function.comp_apply, hf (i + 1) (Nat.succ_lt_succ hi), Nat.add_right_comm,
            Nat.add_assoc])
      · rw [hf 0 (Nat.succ_pos m), Nat.add_zero, List.getElem?_eq_getElem hlt]

/-! entry `t` is determined by the first `t+1` entries (and the head of a non-empty list not by the default) -/

theorem headD_eq_of_ne_nil : ∀ {l : List β}, l ≠ [] → ∀ a b : β, l.headD a = l.headD b
  | _ :: _, _, _, _ => rfl

theorem headD_take_succ (l : List β) (n : Nat) (a : β) :
    (l.take (n + 1)).headD a = l.headD a := by
  cases l <;> rfl

theorem getD_eq_of_take_succ_eq {l l' : List β} {t : Nat}
    (h : l.take (t + 1) = l'.take (t + 1)) (d : β) : l.getD t d = l'.getD t d := by
  rw [List.getD_eq_getElem?_getD, List.getD_eq_getElem?_getD,
    ← List.getElem?_take_of_lt (Nat.lt_succ_self t), h, List.getElem?_take_of_lt (Nat.lt_succ_self t)]

/-- a function satisfying the defining equations of `zipWith f` is `zipWith f` -/
theorem eq_zipWith_of_eqns {γ δ : Type} {f : β → γ → δ} {g : List β → List γ → List δ}
    (hc : ∀ a as b bs, g (a :: as) (b :: bs) = f a b :: g as bs) (hl : ∀ bs, g [] bs = [])
    (hr : ∀ a as, g (a :: as) [] = []) : ∀ as bs, g as bs = List.zipWith f as bs
  | [], bs => hl bs
  | a :: as, [] => hr a as
  | a :: as, b :: bs => (hc a as b bs).trans (congrArg _ (eq_zipWith_of_eqns hc hl hr as bs))

theorem forall_mem_zipWith {γ δ : Type} {P : δ → Prop} (f : β → γ → δ) (l : List β) (l' : List γ)
    (h : ∀ a ∈ l, ∀ b ∈ l', P (f a b)) : ∀ c ∈ List.zipWith f l l', P c := by
  intro c hc
  obtain ⟨i, hi, rfl⟩ := List.getElem_of_mem hc
  rw [List.getElem_zipWith]
  exact h _ (List.getElem_mem _) _ (List.getElem_mem _)

/-- induction over two lists of the same length -/
theorem list_induction₂ {γ : Type} {P : ∀ (as : List β) (bs : List γ), bs.length = as.length → Prop}
    (nil : P [] [] rfl)
    (cons : ∀ a b as bs h, P as bs h → P (a :: as) (b :: bs) (congrArg Nat.succ h)) :
    ∀ as bs h, P as bs h
  | [], [], _ => nil
  | a :: as, b :: bs, h => cons a b as bs _ (list_induction₂ nil cons as bs (Nat.succ.inj h))

/-- Induction over three lists of one common length (a rollout's rewards, values and done flags;
    the locations, scales and values of a diagonal law). -/
theorem list_induction₃ {γ δ : Type}
    {P : ∀ (as : List β) (bs : List γ) (cs : List δ),
      bs.length = as.length → cs.length = as.length → Prop}
    (nil : P [] [] [] rfl rfl)
    (cons : ∀ a b c as bs cs hb hc, P as bs cs hb hc →
      P (a :: as) (b :: bs) (c :: cs) (congrArg Nat.succ hb) (congrArg Nat.succ hc)) :
    ∀ as bs cs hb hc, P as bs cs hb hc
  | [], [], [], _, _ => nil
  | a :: as, b :: bs, c :: cs, hb, hc =>
      cons a b c as bs cs _ _ (list_induction₃ nil cons as bs cs (Nat.succ.inj hb) (Nat.succ.inj hc))

/-- A fold whose every step advances a counter by one ends `length` further on
    (step counters of `TimeLimit`, insertion counts of the replay buffer). -/
theorem foldl_counter {σ : Type} (f : σ → β → σ) (c : σ → Nat)
    (h : ∀ s b, c (f s b) = c s + 1) (l : List β) : ∀ s, c (l.foldl f s) = c s + l.length := by
  induction l with
  | nil => exact fun _ => rfl
  | cons b bs ih =>
      intro s
      rw [List.foldl_cons, ih, h, List.length_cons, Nat.add_assoc, Nat.add_comm 1]

end Lerax.ListFacts
