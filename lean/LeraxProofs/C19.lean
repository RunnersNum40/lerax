/-
  C19 — Reported performance numbers are faithful to what happened.
-/
import LeraxModel.Logging
import Mathlib.Algebra.Order.Field.Basic

namespace Lerax.C19
open Lerax.Env Lerax.Logging

section logging
variable {α : Type} [Field α]

/-- state reached from an arbitrary state by a history -/
def runFrom (alpha : α) (s : LogState α) (h : List (α × Bool)) : LogState α :=
  h.foldl (fun s x => s.next x.1 x.2 alpha) s

def emaFrom (alpha : α) (acc : α) (xs : List α) : α :=
  xs.foldl (fun acc x => alpha * x + (1 - alpha) * acc) acc

/-- Invariant linking the callback state to the running (partial) episode `(cr, cl)`:
    either an episode has just ended (the accumulators will be cleared by the next step) or the
    accumulators hold the partial sums since the last episode end. -/
def Linked (s : LogState α) (cr : α) (cl : Nat) : Prop :=
  (s.episodeDone = true ∧ cr = 0 ∧ cl = 0) ∨
  (s.episodeDone = false ∧ s.episodeReturn = cr ∧ s.episodeLength = cl)

theorem next_of_linked {s : LogState α} {cr : α} {cl : Nat} (hl : Linked s cr cl) (r alpha : α)
    (d : Bool) :
    s.next r d alpha =
      { step := s.step + 1, episodeReturn := cr + r, episodeLength := cl + 1, episodeDone := d,
        averageReturn := if d then alpha * (cr + r) + (1 - alpha) * s.averageReturn
          else s.averageReturn,
        averageLength := if d then alpha * ((cl + 1 : Nat) : α) + (1 - alpha) * s.averageLength
          else s.averageLength } := by
  rcases hl with ⟨h1, rfl, rfl⟩ | ⟨h1, rfl, rfl⟩
  · simp only [LogState.next, h1, ofBool, if_true, sub_self, mul_zero, Nat.sub_self]
  · simp only [LogState.next, h1, ofBool, Bool.false_eq_true, if_false, sub_zero, mul_one,
      Nat.sub_zero]

theorem runFrom_cons (alpha : α) (s : LogState α) (x : α × Bool) (h : List (α × Bool)) :
    runFrom alpha s (x :: h) = runFrom alpha (s.next x.1 x.2 alpha) h := rfl

/-- From any state linked to the open episode `(cr, cl)`, the averages after a history are the
    EMA, started at the current averages, over the episodes the history completes (the first one
    continuing `(cr, cl)`); `step` advances by the length of the history. -/
theorem run_from_spec (alpha : α) (h : List (α × Bool)) (s : LogState α) (cr : α) (cl : Nat)
    (hl : Linked s cr cl) :
    (runFrom alpha s h).averageReturn =
      emaFrom alpha s.averageReturn ((episodesAux h cr cl).map Prod.fst) ∧
    (runFrom alpha s h).averageLength =
      emaFrom alpha s.averageLength ((episodesAux h cr cl).map (fun e => ((e.2 : Nat) : α))) ∧
    (runFrom alpha s h).step = s.step + h.length := by
  induction h generalizing s cr cl with
  | nil => exact ⟨rfl, rfl, rfl⟩
  | cons x rest ih =>
      obtain ⟨r, d⟩ := x
      -- the step counter `s.step + (|rest| + 1)` is reshaped to `s.step + 1 + |rest|`, what `ih` returns
      rw [runFrom_cons, next_of_linked hl r alpha d, List.length_cons, ← Nat.add_assoc,
        Nat.add_right_comm]
      cases d
      · exact ih _ (cr + r) (cl + 1) (Or.inr ⟨rfl, rfl, rfl⟩)
      · exact ih _ 0 0 (Or.inl ⟨rfl, rfl, rfl⟩)

/-- **At every episode end the logged statistics are updated with exactly the sum of rewards and
    the number of steps since the previous episode end, blended with the smoothing factor** — for
    every reward/done history: the logged averages are the EMA over the completed episodes'
    returns / lengths, and `step` counts the environment steps. -/
theorem log_history (alpha : α) (h : List (α × Bool)) :
    (run alpha h).averageReturn = ema alpha ((episodes h).map Prod.fst) ∧
    (run alpha h).averageLength = ema alpha ((episodes h).map (fun e => ((e.2 : Nat) : α))) ∧
    (run alpha h).step = h.length := by
  -- `run`, `ema`, `episodes` are `runFrom`, `emaFrom`, `episodesAux` started at `initial`, `0`, `(0, 0)`
  have := run_from_spec alpha h LogState.initial 0 0 (Or.inr ⟨rfl, rfl, rfl⟩)
  exact ⟨this.1, this.2.1, this.2.2.trans (Nat.zero_add _)⟩

/-- **… and are unchanged otherwise.** -/
theorem unchanged_between_episode_ends (s : LogState α) (r alpha : α) :
    (s.next r false alpha).averageReturn = s.averageReturn ∧
    (s.next r false alpha).averageLength = s.averageLength := by
  simp [LogState.next]

/-- **Separately per environment**: the statistics of environment `i` depend on environment
    `i`'s own history only (the callback state is vmapped with the environments). -/
theorem per_env_independent (alpha : α) (hs hs' : List (List (α × Bool))) (i : Nat)
    (h : hs[i]? = hs'[i]?) :
    ((hs.map (run alpha))[i]?).map (fun s => (s.averageReturn, s.averageLength, s.step)) =
    ((hs'.map (run alpha))[i]?).map (fun s => (s.averageReturn, s.averageLength, s.step)) := by
  rw [List.getElem?_map, List.getElem?_map, h]

/-- **The record handed to the backend carries the cumulative number of environment steps**:
    the sum over environments of the lengths of their histories. -/
theorem record_step_is_total_steps (alpha : α) (hs : List (List (α × Bool))) :
    (iterationRecord (hs.map (run alpha))).1 = (hs.map List.length).sum := by
  simp only [iterationRecord, ← List.sum_eq_foldl, List.map_map]
  exact congrArg List.sum (List.map_congr_left fun h _ => (log_history alpha h).2.2)

/-- **Records reach the backend in iteration order**: logging once per iteration appends one
    record per iteration, the k-th carrying the k-th cumulative step count. -/
theorem records_in_order (steps : List Nat) :
    (steps.foldl (fun log s => log ++ [s]) ([] : List Nat)) = steps := by
  suffices ∀ acc : List Nat, steps.foldl (fun log s => log ++ [s]) acc = acc ++ steps by simpa using this []
  induction steps with
  | nil => simp
  | cons s rest ih => intro acc; simp [ih]

end logging

section evaluation
variable {S A O K PS α : Type} [Keys K] [AddMonoid α]

theorem scanCode_done_sum (E : Env S A O α K) (P : EvalPolicy PS O A K) (det : Bool) (s : S) (ps : PS)
    (ks : List K) : (scanCode E P det (s, ps, true) ks).sum = 0 := by
  induction ks with
  | nil => simp [scanCode]
  | cons k ks ih => simp [scanCode, ih]

/-- **`rollout_scan` returns the sum of rewards up to and including the first step whose
    successor is terminal or truncated, or of all `max_steps` rewards if there is none.** -/
theorem rollout_scan_sum (E : Env S A O α K) (P : EvalPolicy PS O A K) (det : Bool) (s : S) (ps : PS)
    (ks : List K) :
    (scanCode E P det (s, ps, false) ks).sum = episodeReturn E P det s ps ks := by
  induction ks generalizing s ps with
  | nil => simp [scanCode, episodeReturn]
  | cons k ks ih =>
      simp only [scanCode, Bool.false_eq_true, if_false, episodeReturn, List.sum_cons]
      cases hd : (scanStep E P det s ps k).2.2.2
      · simp [ih]
      · simp [scanCode_done_sum]

theorem rolloutScan_eq (E : Env S A O α K) (P : EvalPolicy PS O A K) (det : Bool) (key : K)
    (ks : List K) :
    rolloutScan E P det key ks = episodeReturn E P det (E.initial key) (P.reset key) ks := by
  rw [rolloutScan, ← List.sum_eq_foldl, rollout_scan_sum]

/-- the step cap: no reward after `max_steps` keys is ever counted -/
theorem episodeReturn_cap (E : Env S A O α K) (P : EvalPolicy PS O A K) (det : Bool) (s : S) (ps : PS) :
    episodeReturn E P det s ps [] = 0 := rfl

/-- **`rollout_while` stops at the first terminal or truncated state**: from such a state it
    returns what has been accumulated; otherwise it adds the step's reward and continues. -/
theorem rollout_while_unfold (E : Env S A O α K) (P : EvalPolicy PS O A K) (det : Bool) (fuel : Nat)
    (s : S) (ps : PS) (key : K) (acc : α) :
    rolloutWhileFrom E P det (fuel + 1) s ps key acc =
      if E.terminal s key || E.truncate s then acc
      else
        let obs := E.observation s (sub key 1)
        let out := P.act ps obs (if det then none else some (sub key 2))
        let s' := E.transition s out.2 (sub key 3)
        rolloutWhileFrom E P det fuel s' out.1 (sub key 0) (acc + E.reward s out.2 s' (sub key 0)) := by
  simp [rolloutWhileFrom]

end evaluation

section average
variable {α : Type} [Field α]

/-- **`average_reward` is the mean of the per-episode returns of `num_episodes` independent
    keys.** -/
theorem average_reward_mean (episode : Nat → α) (n : Nat) :
    averageReward episode n = ((List.range n).map episode).sum / n := by
  rw [averageReward, ← List.sum_eq_foldl]

end average

example : episodes ([(1, false), (2, true), (3, false), (4, true), (5, false)] : List (ℚ × Bool))
    = [(3, 2), (7, 2)] := by
  decide +kernel

example : (run (1/2 : ℚ) [(1, false), (2, true), (3, false), (4, true), (5, false)]).averageReturn
    = 1/2 * 7 + 1/2 * (1/2 * 3) := by
  decide +kernel

end Lerax.C19
