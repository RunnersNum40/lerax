/-
  C06 stated directly for the int32-counter model: the corollaries of `int32_refines`
  (LeraxProofs/C06Int32.lean) and the `Nat`-model theorems of LeraxProofs/C06.lean.
-/
import LeraxProofs.C06
import LeraxProofs.C06Int32

namespace Lerax.C06
open Lerax.Replay

variable {ρ : Type}

/-- **C06 for the 32-bit counter.**  After any fewer-than-2^31 insertions (any number of
    wrap-arounds of the ring) into a buffer of capacity `C > 0`, the stored transitions read
    through the int32 state are exactly the most recent `min(n, C)` rows, oldest first. -/
theorem contents32_lastN (C : Nat) (hC : 0 < C) (rows : List ρ) (h : rows.length < 2 ^ 31) :
    contents (abs32 (rows.foldl add32 (empty32 C))) = rows.drop (rows.length - C) := by
  rw [(int32_refines C rows h).1]
  exact contents_lastN C hC rows

/-- the signed validity mask marks slot `j` iff slot `j` holds a written row -/
theorem valid32_iff_written (C : Nat) (hC : 0 < C) (rows : List ρ) (h : rows.length < 2 ^ 31)
    (j : Nat) (hj : j < C) :
    let b := rows.foldl add32 (empty32 C)
    ((validMask32 b)[j]? = some true ↔ ∃ r, b.slots[j]? = some (some r)) := by
  intro b
  have hr := int32_refines C rows h
  have hs : b.slots = (rows.foldl add (empty C)).slots := congrArg Buf.slots hr.1
  rw [hr.2, hs]
  exact (valid_iff_written C hC rows j hj).2

end Lerax.C06
