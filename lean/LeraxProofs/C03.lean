/-
  C03 — Advantages and returns equal the GAE definition, cut at episode ends.

  Theorems about `Lerax.Gae.gae` (the model of `RolloutBuffer.compute_returns_and_advantages`)
  for every rollout length, every reward/value sequence over an arbitrary commutative ring
  (hence ℝ), every done pattern, every γ and λ (not only [0,1]) and every bootstrap value.
-/
import LeraxModel.Gae
import LeraxProofs.ListFacts
import Mathlib.Tactic.Ring
import Mathlib.Algebra.BigOperators.Group.Finset.Basic
import Mathlib.Algebra.BigOperators.Ring.Finset

namespace Lerax.C03
open Lerax.Gae

/-- `next_values` of a value list with a second entry: the first entry is `V_{1}`. -/
theorem nextValues_cons {β : Type} (v w : β) (ws : List β) (last : β) :
    nextValues (v :: w :: ws) last = w :: nextValues (w :: ws) last := rfl

theorem zipWith3_nil_right {β : Type} (f : β → β → β → β) (as bs : List β) :
    zipWith3 f as bs [] = [] := by
  cases as <;> cases bs <;> rfl

variable {α : Type} [CommRing α]

theorem scanRev_carry (xs : List (α × α)) (c : α) :
    (scanRev xs c).2 = (scanRev xs c).1.headD c := by
  cases xs with
  | nil => rfl
  | cons x xs => rfl

theorem scanRev_length (xs : List (α × α)) (c : α) : (scanRev xs c).1.length = xs.length := by
  induction xs with
  | nil => rfl
  | cons x xs ih => simp [scanRev, ih]

theorem scanRev_cons (δ k : α) (xs : List (α × α)) (c : α) :
    (scanRev ((δ, k) :: xs) c).1 = (δ + k * (scanRev xs c).1.headD c) :: (scanRev xs c).1 := by
  simp [scanRev, scanRev_carry]

/-- The advantage of the first step, given the estimates of the rest of the rollout. -/
def headAdv (γ lam r v : α) (d : Bool) (vNext aNext : α) : α :=
  (r + γ * vNext * (1 - ofBool d) - v) + γ * lam * (1 - ofBool d) * aNext

theorem gae_nil (γ lam last : α) (values : List α) (dones : List Bool) :
    (gae γ lam [] values dones last).advantages = [] := by
  simp [gae, deltas, zipWith3, scanRev]

/-- **GAE recurrence, structural form.**  The estimates of a rollout `(r,v,d) :: rest` are the
    estimates of `rest` (same bootstrap value) with one more entry in front:
    `A_0 = δ_0 + γλ(1−d_0)·A_1`, `δ_0 = r_0 + γ(1−d_0)·V_1 − V_0`, `ret_0 = A_0 + V_0`,
    where `V_1` is the next stored value or the bootstrap value at the end of the rollout and
    `A_1 = 0` past the end. -/
theorem gae_cons (γ lam r v : α) (d : Bool) (rs vs : List α) (ds : List Bool) (last : α) :
    (gae γ lam (r :: rs) (v :: vs) (d :: ds) last).advantages =
      headAdv γ lam r v d ((vs ++ [last]).headD last)
        ((gae γ lam rs vs ds last).advantages.headD 0) :: (gae γ lam rs vs ds last).advantages ∧
    (gae γ lam (r :: rs) (v :: vs) (d :: ds) last).returns =
      (headAdv γ lam r v d ((vs ++ [last]).headD last)
        ((gae γ lam rs vs ds last).advantages.headD 0) + v) :: (gae γ lam rs vs ds last).returns := by
  -- `next_values` is `values.drop 1 ++ [last]`: `V_1` is the head of `vs` or, on the last step, `last`
  cases vs with
  | nil =>
      simp [gae, nextValues, nextNonTerminals, deltas, discounts, zipWith3, zipWith3_nil_right,
        scanRev, headAdv]
  | cons w ws =>
      simp only [gae, nextValues_cons, nextNonTerminals, List.map_cons, deltas, discounts, zipWith3,
        List.zipWith_cons_cons, List.zip_cons_cons, scanRev_cons, headAdv, List.cons_append,
        List.headD_cons, and_self]

/-- `δ_t` and the recurrence, read off by index with `A_T = 0`, `V_T = last`. -/
def RecurrenceAt (γ lam : α) (rewards values : List α) (dones : List Bool) (last : α)
    (adv ret : List α) (t : Nat) : Prop :=
  let r := rewards.getD t 0
  let v := values.getD t 0
  let d := dones.getD t false
  let vNext := (values ++ [last]).getD (t + 1) 0
  let aNext := adv.getD (t + 1) 0
  let nnt : α := 1 - ofBool d
  let delta := r + γ * vNext * nnt - v
  adv.getD t 0 = delta + γ * lam * nnt * aNext ∧ ret.getD t 0 = adv.getD t 0 + v

theorem gae_lengths (γ lam : α) (rewards values : List α) (dones : List Bool) (last : α)
    (hv : values.length = rewards.length) (hd : dones.length = rewards.length) :
    (gae γ lam rewards values dones last).advantages.length = rewards.length ∧
    (gae γ lam rewards values dones last).returns.length = rewards.length := by
  induction rewards, values, dones, hv, hd using ListFacts.list_induction₃ with
  | nil => exact ⟨rfl, rfl⟩
  | cons r v d rs vs ds _ _ ih =>
      have h := gae_cons γ lam r v d rs vs ds last
      rw [h.1, h.2]
      exact ⟨congrArg Nat.succ ih.1, congrArg Nat.succ ih.2⟩

/-- **C03, main statement.**  For every rollout (any length `T`, any rewards, values, done
    pattern, γ, λ, bootstrap value) and every `t < T`:
    `A_t = δ_t + γλ(1−d_t)A_{t+1}`, `δ_t = r_t + γ(1−d_t)V_{t+1} − V_t`, `A_T = 0`, `V_T = last`,
    `ret_t = A_t + V_t`. -/
theorem gae_recurrence (γ lam : α) (rewards values : List α) (dones : List Bool) (last : α)
    (hv : values.length = rewards.length) (hd : dones.length = rewards.length)
    (t : Nat) (ht : t < rewards.length) :
    RecurrenceAt γ lam rewards values dones last
      (gae γ lam rewards values dones last).advantages
      (gae γ lam rewards values dones last).returns t := by
  induction rewards, values, dones, hv, hd using ListFacts.list_induction₃ generalizing t with
  | nil => exact absurd ht (Nat.not_lt_zero t)
  | cons r v d rs vs ds _ _ ih =>
      have h := gae_cons γ lam r v d rs vs ds last
      unfold RecurrenceAt
      rw [h.1, h.2]
      cases t with
      | zero =>
          rw [ListFacts.headD_eq_of_ne_nil (l := vs ++ [last]) (by simp) last 0, List.headD_eq_getD, List.headD_eq_getD]
          exact ⟨rfl, rfl⟩
      | succ t =>
          simpa only [RecurrenceAt, List.getD_cons_succ, List.cons_append] using
            ih t (Nat.lt_of_succ_lt_succ ht)

/-- The `Bool` checker `Lerax.Gae.phi` that the driver evaluates on implementation outputs is,
    with exact equality, always true of the model. -/
theorem phi_gae [DecidableEq α] (γ lam : α) (rewards values : List α) (dones : List Bool)
    (last : α) (hv : values.length = rewards.length) (hd : dones.length = rewards.length) :
    phi (fun a b => decide (a = b)) γ lam rewards values dones last
      (gae γ lam rewards values dones last).advantages
      (gae γ lam rewards values dones last).returns = true := by
  unfold phi
  simp only [Bool.and_eq_true, beq_iff_eq, List.all_eq_true, List.mem_range]
  refine ⟨gae_lengths γ lam rewards values dones last hv hd, fun t ht => ?_⟩
  simpa only [recurrenceAt, RecurrenceAt, Bool.and_eq_true, decide_eq_true_eq] using
    gae_recurrence γ lam rewards values dones last hv hd t ht

/-- `Σ_k (Π_{j<k} c_j) · δ_k` over a suffix `[(δ_0,c_0), (δ_1,c_1), …]`. -/
def closedForm (xs : List (α × α)) : α :=
  ∑ k ∈ Finset.range xs.length, ((xs.map Prod.snd).take k).prod * ((xs.map Prod.fst).getD k 0)

theorem closedForm_cons (δ c : α) (xs : List (α × α)) :
    closedForm ((δ, c) :: xs) = δ + c * closedForm xs := by
  unfold closedForm
  rw [List.length_cons, Finset.sum_range_succ', Finset.mul_sum]
  simp only [List.map_cons, List.take_zero, List.prod_nil, List.getD_cons_zero, one_mul,
    List.take_succ_cons, List.prod_cons, List.getD_cons_succ]
  rw [add_comm]
  exact congrArg (δ + ·) (Finset.sum_congr rfl fun k _ => mul_assoc _ _ _)

theorem scanRev_head_closedForm (xs : List (α × α)) :
    (scanRev xs 0).1.headD 0 = closedForm xs := by
  induction xs with
  | nil => simp [scanRev, closedForm]
  | cons x xs ih =>
      obtain ⟨δ, c⟩ := x
      rw [scanRev_cons, closedForm_cons, ← ih]
      rfl

/-- **Closed form.**  The first advantage of a rollout is
    `Σ_{k} (Π_{j<k} γλ(1−d_j)) · δ_k`; applied to every suffix of the rollout (by `gae_cons`
    the tail of the estimates is the estimate of the tail) this is
    `A_t = Σ_{k≥t} (γλ)^{k−t} Π_{t≤j<k}(1−d_j) δ_k`. -/
theorem gae_closed_form (γ lam : α) (rewards values : List α) (dones : List Bool) (last : α) :
    (gae γ lam rewards values dones last).advantages.headD 0 =
      closedForm ((deltas γ rewards values (nextValues values last) (nextNonTerminals dones)).zip
        (discounts γ lam (nextNonTerminals dones))) :=
  scanRev_head_closedForm _

/-- **λ = 0: one-step TD errors.** -/
theorem gae_lambda_zero (γ : α) (rewards values : List α) (dones : List Bool) (last : α)
    (hv : values.length = rewards.length) (hd : dones.length = rewards.length)
    (t : Nat) (ht : t < rewards.length) :
    (gae γ 0 rewards values dones last).advantages.getD t 0 =
      rewards.getD t 0 + γ * (values ++ [last]).getD (t + 1) 0 * (1 - ofBool (dones.getD t false))
        - values.getD t 0 := by
  have h := gae_recurrence γ 0 rewards values dones last hv hd t ht
  unfold RecurrenceAt at h
  rw [h.1]
  ring

/-- discounted reward sum up to and including the first done step; `γ^k · last` is added when
    the rollout ends without a done -/
def mcReturn (γ : α) : List α → List Bool → α → α
  | r :: rs, d :: ds, last => if d then r else r + γ * mcReturn γ rs ds last
  | _, _, last => last

/-- With λ = 1 the first return (the bootstrap value if the rollout is empty) is the discounted
    reward sum: `ret_0 = r_0 + γ(1−d_0)·(A_1 + V_1)` and `A_1 + V_1` is the first return of the
    rest. -/
theorem gae_lambda_one_headD (γ : α) (rewards values : List α) (dones : List Bool) (last : α)
    (hv : values.length = rewards.length) (hd : dones.length = rewards.length) :
    (gae γ 1 rewards values dones last).returns.headD last = mcReturn γ rewards dones last ∧
    (gae γ 1 rewards values dones last).returns.headD last =
      (gae γ 1 rewards values dones last).advantages.headD 0 + (values ++ [last]).headD last := by
  induction rewards, values, dones, hv, hd using ListFacts.list_induction₃ with
  | nil => exact ⟨rfl, (zero_add last).symm⟩
  | cons r v d rs vs ds _ _ ih =>
      have h := gae_cons γ 1 r v d rs vs ds last
      rw [h.1, h.2]
      refine ⟨?_, rfl⟩
      rw [List.headD_cons, mcReturn, ← ih.1, ih.2, headAdv]
      cases d
      · simp only [ofBool, Bool.false_eq_true, if_false]
        ring
      · simp only [ofBool, if_true]
        ring

/-- **λ = 1: discounted Monte-Carlo returns**, cut at the first episode end. -/
theorem gae_lambda_one (γ : α) (rewards values : List α) (dones : List Bool) (last : α)
    (hv : values.length = rewards.length) (hd : dones.length = rewards.length)
    (hne : rewards ≠ []) :
    (gae γ 1 rewards values dones last).returns.headD 0 = mcReturn γ rewards dones last := by
  rw [← (gae_lambda_one_headD γ rewards values dones last hv hd).1]
  refine ListFacts.headD_eq_of_ne_nil (List.ne_nil_of_length_pos ?_) 0 last
  rw [(gae_lengths γ 1 rewards values dones last hv hd).2]
  exact List.length_pos_iff.mpr hne

theorem headAdv_done (γ lam r v vNext aNext : α) : headAdv γ lam r v true vNext aNext = r - v := by
  simp only [headAdv, ofBool, if_true, sub_self, mul_zero, zero_mul, add_zero]

/-- **The estimates up to an episode end are those of the rollout cut off there**, with any
    bootstrap value: nothing recorded after a done step `t` reaches a step `s ≤ t`. -/
theorem gae_take_done (γ lam : α) (r v : List α) (d : List Bool) (last last' : α)
    (hv : v.length = r.length) (hd : d.length = r.length) (t : Nat) (ht : t < r.length)
    (hdone : d.getD t false = true) :
    (gae γ lam r v d last).advantages.take (t + 1) =
      (gae γ lam (r.take (t + 1)) (v.take (t + 1)) (d.take (t + 1)) last').advantages ∧
    (gae γ lam r v d last).returns.take (t + 1) =
      (gae γ lam (r.take (t + 1)) (v.take (t + 1)) (d.take (t + 1)) last').returns := by
  induction r, v, d, hv, hd using ListFacts.list_induction₃ generalizing t with
  | nil => exact absurd ht (Nat.not_lt_zero t)
  | cons r0 v0 d0 rs vs ds hvs _ ih =>
      have h := gae_cons γ lam r0 v0 d0 rs vs ds last
      simp only [List.take_succ_cons]
      cases t with
      | zero =>
          have h' := gae_cons γ lam r0 v0 d0 [] [] [] last'
          rw [List.getD_cons_zero] at hdone
          subst hdone
          rw [h.1, h.2, List.take_zero, List.take_zero, List.take_zero, h'.1, h'.2, headAdv_done,
            headAdv_done]
          exact ⟨rfl, rfl⟩
      | succ t =>
          have ht' : t < rs.length := Nat.lt_of_succ_lt_succ ht
          have h' := gae_cons γ lam r0 v0 d0 (rs.take (t + 1)) (vs.take (t + 1)) (ds.take (t + 1)) last'
          obtain ⟨ihA, ihR⟩ := ih t ht' hdone
          -- the head entry reads `V_1` and `A_1` of the tail, both inside the prefix
          have hV : (vs.take (t + 1) ++ [last']).headD last' = (vs ++ [last]).headD last := by
            cases vs with
            | nil => exact absurd (Nat.lt_of_lt_of_eq ht' hvs.symm) (Nat.not_lt_zero t)
            | cons _ _ => rfl
          rw [h.1, h.2, h'.1, h'.2, hV, ← ihA, ← ihR, ListFacts.headD_take_succ]
          exact ⟨rfl, rfl⟩

/-- **Nothing recorded after an episode end influences the estimates before it.**  Two
    rollouts that agree up to and including a done step `t` (and are otherwise arbitrary: other
    rewards, values, done flags afterwards, other bootstrap value, even other lengths) have the
    same advantages and returns at every step `s ≤ t`. -/
theorem gae_cut (γ lam : α) (r r' v v' : List α) (d d' : List Bool) (last last' : α)
    (hv : v.length = r.length) (hd : d.length = r.length)
    (hv' : v'.length = r'.length) (hd' : d'.length = r'.length)
    (t : Nat) (ht : t < r.length) (ht' : t < r'.length)
    (hr : r.take (t + 1) = r'.take (t + 1)) (hvv : v.take (t + 1) = v'.take (t + 1))
    (hdd : d.take (t + 1) = d'.take (t + 1)) (hdone : d.getD t false = true) :
    (gae γ lam r v d last).advantages.take (t + 1) = (gae γ lam r' v' d' last').advantages.take (t + 1) ∧
    (gae γ lam r v d last).returns.take (t + 1) = (gae γ lam r' v' d' last').returns.take (t + 1) := by
  have hdone' : d'.getD t false = true := ListFacts.getD_eq_of_take_succ_eq hdd false ▸ hdone
  have h := gae_take_done γ lam r v d last 0 hv hd t ht hdone
  have h' := gae_take_done γ lam r' v' d' last' 0 hv' hd' t ht' hdone'
  rw [h.1, h.2, h'.1, h'.2, hr, hvv, hdd]
  exact ⟨rfl, rfl⟩

/-- **Each environment's stream is estimated on its own**: the estimates of environment `i`
    are `gae` of environment `i`'s data, whatever the other environments hold. -/
theorem gae_batch_independent (γ lam : α) (envs envs' : List (List α × List α × List Bool × α))
    (i : Nat) (h : envs[i]? = envs'[i]?) :
    ((gaeBatch γ lam envs)[i]?).map (fun o => (o.advantages, o.returns)) =
    ((gaeBatch γ lam envs')[i]?).map (fun o => (o.advantages, o.returns)) := by
  rw [gaeBatch, gaeBatch, List.getElem?_map, List.getElem?_map, h]

example : (gae (1/2 : ℚ) (1/2) [1, 2, 3] [1, 0, 2] [false, true, false] 4).advantages
    = [1/2, 2, 3] := by
  decide +kernel

end Lerax.C03
