/-
  C11 — Training is reproducible, pure, and unaffected by observers.

  The part of this property that a theorem can carry is non-interference: whatever the
  callbacks compute, the core component (hence the returned policy) is the same.  Bit-identical
  repetition and key sensitivity are facts about XLA and `jax.random`; they are decided by
  differential runs of the real code (see harness/c11.py), not by a theorem.
-/
import LeraxProofs.LearnSim

namespace Lerax.C11
open Lerax.Env Lerax.Learn

variable {Core Cb Cb' K : Type} [Keys K]

theorem step_core (coreStep : Core → K → Core) (cb : Callbacks Core Cb K) (s : Core × Cb) (key : K) :
    (step coreStep cb s key).1 = coreStep s.1 key := rfl

theorem rollout_core (coreStep : Core → K → Core) (cb : Callbacks Core Cb K) (cb' : Callbacks Core Cb' K)
    (keys : List K) (s : Core × Cb) (s' : Core × Cb') (h : s.1 = s'.1) :
    (keys.foldl (step coreStep cb) s).1 = (keys.foldl (step coreStep cb') s').1 :=
  (Sim.trivial.rollout_rel coreStep keys ⟨h, trivial⟩).1

theorem iteration_core (coreStep : Core → K → Core) (train : Core → K → Core) (n : Nat)
    (cb : Callbacks Core Cb K) (cb' : Callbacks Core Cb' K) (s : Core × Cb) (s' : Core × Cb')
    (h : s.1 = s'.1) (key : K) :
    (iteration coreStep train n cb s key).1 = (iteration coreStep train n cb' s' key).1 :=
  (Sim.trivial.iteration_rel coreStep train n ⟨h, trivial⟩ key).1

/-- **Observer non-interference.**  For any two sets of observers (any callback state types, any
    callback functions, e.g. none vs. logging + progress bar) the core component — environment
    states, policy parameters, optimiser state, buffers, counters — after `learn` is the same,
    for every number of iterations and steps. -/
theorem observer_noninterference (reset : K → Core) (coreStep : Core → K → Core)
    (train : Core → K → Core) (numSteps numIters : Nat)
    (cb : Callbacks Core Cb K) (cb' : Callbacks Core Cb' K) (key : K) :
    (learn reset coreStep train numSteps numIters cb key).1 =
      (learn reset coreStep train numSteps numIters cb' key).1 :=
  (Sim.trivial.learn_rel reset coreStep train numSteps numIters key).1

/-- **Training is a function of (environment, initial policy, hyper-parameters, key)**: in the
    pure model equal inputs give equal outputs, and the input policy is an argument, not a
    mutable cell (stated for completeness). -/
theorem learn_is_function (reset reset' : K → Core) (coreStep : Core → K → Core)
    (train : Core → K → Core) (n m : Nat) (cb : Callbacks Core Cb K) (key : K) (h : reset = reset') :
    learn reset coreStep train n m cb key = learn reset' coreStep train n m cb key := h ▸ rfl

/-! non-vacuity: an observer that counts steps does not move a counter core -/
instance : Keys Nat := ⟨fun k i => k + i⟩

def silent : Callbacks Nat Unit Nat :=
  { init := fun _ _ => (), onStep := fun _ _ _ => (), onIteration := fun _ _ _ => (),
    onTrainingStart := fun _ _ _ => (), onTrainingEnd := fun _ _ _ => () }
def counting : Callbacks Nat Nat Nat :=
  { init := fun _ _ => 0, onStep := fun c n _ => n + c, onIteration := fun _ n _ => n + 1,
    onTrainingStart := fun _ n _ => n, onTrainingEnd := fun _ n _ => n }

example : (learn (fun k => k) (fun c k => c + k) (fun c _ => 2 * c) 3 2 counting 5).1 =
    (learn (fun k => k) (fun c k => c + k) (fun c _ => 2 * c) 3 2 silent 5).1 ∧
    (learn (fun k => k) (fun c k => c + k) (fun c _ => 2 * c) 3 2 counting 5).2 ≠ 0 := by decide

end Lerax.C11
