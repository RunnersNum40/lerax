/-
  C15 — Action distributions are coherent probability laws (continuous laws, over ℝ).

  The `Normal`, `DiagNormal`, `SquashedNormal`, `SquashedDiag` models of `LeraxModel/Dist.lean` with
  `Real.exp`, `Real.log`, the exact `Real.sigmoid` and `c = ½·log 2π`.  The normal density is
  Mathlib's Gaussian density (mass one, entropy `−E[log p]`); the squashing map is a strictly
  increasing differentiable bijection onto `(lo, hi)` whose log-Jacobian is what the code subtracts,
  so the squashed density is the push-forward density (one-dimensional change of variables);
  diagonal laws are sums over components.
-/
import LeraxModel.Dist
import LeraxProofs.C15
import LeraxProofs.ListFacts
import Mathlib.Probability.Distributions.Gaussian.Real
import Mathlib.Analysis.SpecialFunctions.Sigmoid
import Mathlib.MeasureTheory.Function.JacobianOneDim

namespace Lerax.C15
open Lerax.Dist MeasureTheory ProbabilityTheory Real Set

/-- distreqx's `_half_log2pi = 0.5 * log(2π)` -/
noncomputable def halfLog2Pi : ℝ := Real.log (2 * π) / 2

theorem exp_halfLog2Pi : rexp halfLog2Pi = √(2 * π) := by
  unfold halfLog2Pi
  rw [← Real.log_sqrt (by positivity), Real.exp_log (by positivity)]

theorem half_real : (half : ℝ) = 1 / 2 := by unfold half; norm_num

/-- the variance `σ²` as a non-negative real -/
noncomputable def var (σ : ℝ) : NNReal := ⟨σ ^ 2, sq_nonneg σ⟩

theorem var_coe (σ : ℝ) : (var σ : ℝ) = σ ^ 2 := rfl

theorem var_ne_zero (σ : ℝ) (hσ : 0 < σ) : var σ ≠ 0 :=
  fun h => (pow_pos hσ 2).ne' (congrArg NNReal.toReal h)

/-- the log-density in the textbook form -/
theorem normal_logProb_eq (c μ σ : ℝ) (hσ : σ ≠ 0) (x : ℝ) :
    Normal.logProb Real.log c ⟨μ, σ⟩ x = -(x - μ) ^ 2 / (2 * σ ^ 2) - (c + Real.log σ) := by
  simp only [Normal.logProb, negHalfSq, half_real]
  field_simp

/-- the model's density is Mathlib's Gaussian density with variance `σ²` -/
theorem normal_prob_eq_gaussianPDF (μ σ : ℝ) (hσ : 0 < σ) (x : ℝ) :
    Normal.prob rexp Real.log halfLog2Pi ⟨μ, σ⟩ x = gaussianPDFReal μ (var σ) x := by
  unfold Normal.prob gaussianPDFReal
  rw [normal_logProb_eq _ μ σ hσ.ne', Real.exp_sub, Real.exp_add, exp_halfLog2Pi, Real.exp_log hσ,
    var_coe, Real.sqrt_mul (by positivity : (0 : ℝ) ≤ 2 * π), Real.sqrt_sq hσ.le, div_eq_inv_mul]

/-- **the normal density integrates to one** -/
theorem normal_density_integral_one (μ σ : ℝ) (hσ : 0 < σ) :
    ∫ x, Normal.prob rexp Real.log halfLog2Pi ⟨μ, σ⟩ x = 1 := by
  simp_rw [normal_prob_eq_gaussianPDF μ σ hσ]
  exact integral_gaussianPDFReal_eq_one μ (var_ne_zero σ hσ)

theorem normal_prob_pos (μ σ x : ℝ) : 0 < Normal.prob rexp Real.log halfLog2Pi ⟨μ, σ⟩ x :=
  Real.exp_pos _

/-- `sample_and_log_prob` of the normal law returns the log-density of the returned sample -/
theorem normal_sample_and_logprob_consistent (c μ σ : ℝ) (hσ : σ ≠ 0) (z : ℝ) :
    (Normal.sampleAndLogProb Real.log c ⟨μ, σ⟩ z).2
      = Normal.logProb Real.log c ⟨μ, σ⟩ (Normal.sampleAndLogProb Real.log c ⟨μ, σ⟩ z).1 :=
  normal_sampleAndLogProb_eq c ⟨μ, σ⟩ hσ z

theorem normal_sample (μ σ z : ℝ) : Normal.sample ⟨μ, σ⟩ z = μ + σ * z := by
  simp [Normal.sample]; ring

/-- **entropy of the normal law `= −E[log p]`** -/
theorem normal_entropy_eq_neg_expect_log (μ σ : ℝ) (hσ : 0 < σ) :
    Normal.entropy Real.log halfLog2Pi ⟨μ, σ⟩
      = -∫ x, Normal.prob rexp Real.log halfLog2Pi ⟨μ, σ⟩ x
              * Normal.logProb Real.log halfLog2Pi ⟨μ, σ⟩ x := by
  -- `∫ pdf · f = E[f]` under `gaussianReal μ σ²` (`h1`), `log p = −(x−μ)²/(2σ²) − (c + log σ)`, and
  -- `E[(x−μ)²] = σ²` (`hvar`): hence `−E[log p] = ½ + c + log σ`
  have hv0 := var_ne_zero σ hσ
  have h1 := integral_gaussianReal_eq_integral_smul (μ := μ) hv0
    (f := fun x => -(x - μ) ^ 2 / (2 * σ ^ 2) - (halfLog2Pi + Real.log σ))
  have hint : Integrable (fun x : ℝ => -(x - μ) ^ 2 / (2 * σ ^ 2)) (gaussianReal μ (var σ)) :=
    ((memLp_id_gaussianReal (μ := μ) (v := var σ) 2).sub (memLp_const μ)).integrable_sq.neg.div_const _
  have hvar : ∫ x, (x - μ) ^ 2 ∂(gaussianReal μ (var σ)) = σ ^ 2 := by
    have h := variance_fun_id_gaussianReal (μ := μ) (v := var σ)
    rwa [variance_eq_integral (by fun_prop), integral_id_gaussianReal] at h
  simp only [smul_eq_mul] at h1
  simp_rw [normal_prob_eq_gaussianPDF μ σ hσ, normal_logProb_eq _ μ σ hσ.ne', ← h1]
  rw [integral_sub hint (integrable_const _), integral_div, integral_neg, hvar,
    integral_const]
  simp only [Normal.entropy, half_real, probReal_univ, smul_eq_mul, one_mul]
  field_simp
  ring

theorem absv_of_pos (s : ℝ) (h : 0 < s) : absv s = s := by
  unfold absv; rw [if_neg (not_lt.mpr h.le)]

/-- one more component: its own normal log-density (the standard-normal log-density of the standardised
    value minus `log|σ|`) is added -/
theorem diagNormal_logProb_cons (c m s x : ℝ) (ms ss xs : List ℝ) (hs : 0 < s) :
    DiagNormal.logProb Real.log c ⟨m :: ms, s :: ss⟩ (x :: xs)
      = Normal.logProb Real.log c ⟨m, s⟩ x + DiagNormal.logProb Real.log c ⟨ms, ss⟩ xs := by
  refine (add_sub_add_comm _ _ _ _).trans (congrArg (· + _) ?_)
  simp only [stdLogProb, Normal.logProb, Real.log_one, sub_zero, div_one, absv_of_pos s hs]
  ring

theorem diagNormal_entropy_cons (c m s : ℝ) (ms ss : List ℝ) (hs : 0 < s) :
    DiagNormal.entropy Real.log c ⟨m :: ms, s :: ss⟩
      = Normal.entropy Real.log c ⟨m, s⟩ + DiagNormal.entropy Real.log c ⟨ms, ss⟩ := by
  refine (add_add_add_comm _ _ _ _).trans (congrArg (· + _) ?_)
  simp only [Normal.entropy, Real.log_one, add_zero, absv_of_pos s hs]
  ring

/-- **log-density of a diagonal normal = sum of the component log-densities** -/
theorem diag_normal_logprob_sum (c : ℝ) (loc scale v : List ℝ)
    (hl : scale.length = loc.length) (hvl : v.length = loc.length) (hs : ∀ s ∈ scale, 0 < s) :
    DiagNormal.logProb Real.log c ⟨loc, scale⟩ v
      = (List.zipWith (fun (d : Normal ℝ) x => d.logProb Real.log c x)
          (DiagNormal.components ⟨loc, scale⟩) v).sum := by
  induction loc, scale, v, hl, hvl using ListFacts.list_induction₃ with
  | nil => exact sub_self _
  | cons m s x ms ss xs _ _ ih =>
      rw [diagNormal_logProb_cons c m s x ms ss xs (hs s List.mem_cons_self),
        ih fun s hs' => hs s (List.mem_cons_of_mem _ hs')]
      rfl

/-- **entropy of a diagonal normal = sum of the component entropies** -/
theorem diag_normal_entropy_sum (c : ℝ) (loc scale : List ℝ)
    (hl : scale.length = loc.length) (hs : ∀ s ∈ scale, 0 < s) :
    DiagNormal.entropy Real.log c ⟨loc, scale⟩
      = ((DiagNormal.components ⟨loc, scale⟩).map (fun d => d.entropy Real.log c)).sum := by
  induction loc, scale, hl using ListFacts.list_induction₂ with
  | nil => exact add_zero _
  | cons m s ms ss _ ih =>
      rw [diagNormal_entropy_cons c m s ms ss (hs s List.mem_cons_self),
        ih fun s hs' => hs s (List.mem_cons_of_mem _ hs')]
      rfl

/-- standardising a sample gives the noise back -/
theorem standardize_sample (loc scale z : List ℝ) (hl : scale.length = loc.length)
    (hz : z.length = loc.length) (hs : ∀ s ∈ scale, s ≠ 0) :
    DiagNormal.standardize ⟨loc, scale⟩ (DiagNormal.sample ⟨loc, scale⟩ z) = z := by
  induction loc, scale, z, hl, hz using ListFacts.list_induction₃ with
  | nil => rfl
  | cons m s x ms ss xs _ _ ih =>
      show (s * x + m - m) / s :: DiagNormal.standardize ⟨ms, ss⟩ (DiagNormal.sample ⟨ms, ss⟩ xs)
        = x :: xs
      rw [sample_sub_div s x m (hs s List.mem_cons_self), ih fun s hs' => hs s (List.mem_cons_of_mem _ hs')]

/-- `sample_and_log_prob` of the diagonal normal returns the log-density of the returned sample -/
theorem diag_normal_sample_and_logprob_consistent (c : ℝ) (loc scale z : List ℝ)
    (hl : scale.length = loc.length) (hz : z.length = loc.length) (hs : ∀ s ∈ scale, 0 < s) :
    (DiagNormal.sampleAndLogProb Real.log c ⟨loc, scale⟩ z).2
      = DiagNormal.logProb Real.log c ⟨loc, scale⟩
          (DiagNormal.sampleAndLogProb Real.log c ⟨loc, scale⟩ z).1 := by
  simp only [DiagNormal.sampleAndLogProb, DiagNormal.logProb]
  rw [standardize_sample loc scale z hl hz fun s h => (hs s h).ne']

/-- the model's `sigmoid` (defined from `exp`) is Mathlib's -/
theorem model_sigmoid_eq (x : ℝ) : Lerax.Dist.sigmoid rexp x = Real.sigmoid x := by
  simp [Lerax.Dist.sigmoid, Real.sigmoid_def]

/-- **`g x ∈ (lo, hi)`** -/
theorem squash_range (q : Dist.Squash ℝ) (h : q.lo < q.hi) (x : ℝ) :
    q.lo < q.forward Real.sigmoid x ∧ q.forward Real.sigmoid x < q.hi := by
  have hd : 0 < q.hi - q.lo := sub_pos.mpr h
  have h1 := mul_lt_mul_of_pos_left (Real.sigmoid_lt_one x) hd
  exact ⟨lt_add_of_pos_left _ (mul_pos hd (Real.sigmoid_pos x)), by unfold Squash.forward; linarith⟩

/-- **`g` is strictly increasing** -/
theorem squash_strictMono (q : Dist.Squash ℝ) (h : q.lo < q.hi) : StrictMono (q.forward Real.sigmoid) := by
  intro a b hab
  exact add_lt_add_left (mul_lt_mul_of_pos_left (Real.sigmoid_strictMono hab) (sub_pos.mpr h)) _

/-- **`g'(x) = (hi − lo)·σ(x)(1 − σ(x))`** -/
theorem squash_hasDeriv (q : Dist.Squash ℝ) (x : ℝ) :
    HasDerivAt (q.forward Real.sigmoid)
      ((q.hi - q.lo) * (Real.sigmoid x * (1 - Real.sigmoid x))) x :=
  ((Real.hasDerivAt_sigmoid x).const_mul (q.hi - q.lo)).add_const q.lo

theorem squash_deriv_pos (q : Dist.Squash ℝ) (h : q.lo < q.hi) (x : ℝ) :
    0 < (q.hi - q.lo) * (Real.sigmoid x * (1 - Real.sigmoid x)) :=
  mul_pos (sub_pos.mpr h) (mul_pos (Real.sigmoid_pos x) (sub_pos.mpr (Real.sigmoid_lt_one x)))

/-- the log-Jacobian the code uses is the logarithm of the derivative:
    `exp(−softplus(−x) − softplus(x) + log|hi − lo|) = (hi − lo)·σ(x)(1 − σ(x))` -/
theorem exp_fldj (q : Dist.Squash ℝ) (h : q.lo < q.hi) (x : ℝ) :
    rexp (q.fldj rexp Real.log x) = (q.hi - q.lo) * (Real.sigmoid x * (1 - Real.sigmoid x)) := by
  have hd : 0 < q.hi - q.lo := sub_pos.mpr h
  unfold Squash.fldj
  rw [absv_of_pos _ hd, Real.exp_add, Real.exp_log hd, sub_eq_add_neg, Real.exp_add,
    exp_neg_softplus expLog_real, exp_neg_softplus expLog_real, neg_neg, model_sigmoid_eq,
    model_sigmoid_eq, Real.sigmoid_neg]
  ring

/-- the logit `log u − log(1 − u)` (what `Sigmoid.inverse` computes) inverts the sigmoid -/
theorem logit_sigmoid (x : ℝ) : Real.log (Real.sigmoid x) - Real.log (1 - Real.sigmoid x) = x := by
  -- `1 − σ x = σ(−x) = σ x · e^{−x}`, so the difference of the logs is `−log e^{−x}`
  rw [← Real.sigmoid_neg, ← Real.sigmoid_mul_rexp_neg,
    Real.log_mul (Real.sigmoid_pos x).ne' (Real.exp_pos _).ne', Real.log_exp]
  ring

theorem sigmoid_logit (u : ℝ) (h0 : 0 < u) (h1 : u < 1) :
    Real.sigmoid (Real.log u - Real.log (1 - u)) = u := by
  obtain ⟨x, rfl⟩ : u ∈ range Real.sigmoid := by rw [Real.range_sigmoid]; exact ⟨h0, h1⟩
  rw [logit_sigmoid]

/-- `g⁻¹ (g x) = x` -/
theorem squash_inverse_forward (q : Dist.Squash ℝ) (h : q.lo < q.hi) (x : ℝ) :
    q.inverse Real.log (q.forward Real.sigmoid x) = x := by
  unfold Squash.inverse Squash.forward
  simp only [add_sub_cancel_right, one_div, inv_mul_cancel_left₀ (sub_pos.mpr h).ne']
  exact logit_sigmoid x

/-- `g (g⁻¹ y) = y` for `y ∈ (lo, hi)` -/
theorem squash_forward_inverse (q : Dist.Squash ℝ) (h : q.lo < q.hi) (y : ℝ) (hy : y ∈ Ioo q.lo q.hi) :
    q.forward Real.sigmoid (q.inverse Real.log y) = y := by
  have hd : 0 < q.hi - q.lo := sub_pos.mpr h
  have hu0 : 0 < 1 / (q.hi - q.lo) * (y - q.lo) := mul_pos (one_div_pos.mpr hd) (sub_pos.mpr hy.1)
  have hu1 : 1 / (q.hi - q.lo) * (y - q.lo) < 1 := by
    rw [one_div, inv_mul_lt_iff₀ hd, mul_one]
    exact sub_lt_sub_right hy.2 _
  unfold Squash.forward Squash.inverse
  rw [sigmoid_logit _ hu0 hu1, one_div, mul_inv_cancel_left₀ hd.ne', sub_add_cancel]

/-- the image of `g` is exactly `(lo, hi)` -/
theorem squash_image (q : Dist.Squash ℝ) (h : q.lo < q.hi) :
    q.forward Real.sigmoid '' univ = Ioo q.lo q.hi := by
  ext y
  constructor
  · rintro ⟨x, _, rfl⟩
    exact squash_range q h x
  · intro hy
    exact ⟨q.inverse Real.log y, mem_univ _, squash_forward_inverse q h y hy⟩

/-- `log|(g⁻¹)'(g x)| = −log|g'(x)|` -/
theorem ildj_forward (q : Dist.Squash ℝ) (h : q.lo < q.hi) (x : ℝ) :
    q.ildj rexp Real.log (q.forward Real.sigmoid x) = -(q.fldj rexp Real.log x) := by
  unfold Squash.ildj Squash.fldj
  rw [squash_inverse_forward q h x]
  ring

/-- **the squashed log-density is the push-forward density**: `p_Y(g x)·g'(x) = p_X(x)` -/
theorem squashed_logprob_is_pushforward_density (c : ℝ) (d : SquashedNormal ℝ)
    (h : d.sq.lo < d.sq.hi) (x : ℝ) :
    d.prob rexp Real.log c (d.sq.forward Real.sigmoid x)
        * ((d.sq.hi - d.sq.lo) * (Real.sigmoid x * (1 - Real.sigmoid x)))
      = d.base.prob rexp Real.log c x := by
  unfold SquashedNormal.prob SquashedNormal.logProb Normal.prob
  rw [squash_inverse_forward d.sq h x, ildj_forward d.sq h x, ← exp_fldj d.sq h x, ← Real.exp_add]
  congr 1
  ring

/-- **samples follow the stated density**: for every measurable set `s` of base-noise outcomes,
    the squashed density integrated over the image `g '' s` equals the normal density integrated
    over `s` — i.e. `g(X)` with `X ~ N(μ, σ²)` has density `exp(log_prob)` (`X = μ + σ z`,
    `z ~ N(0,1)` being what `jax.random.normal` is trusted to deliver) -/
theorem squashed_sample_law (μ σ : ℝ) (q : Dist.Squash ℝ) (h : q.lo < q.hi)
    (s : Set ℝ) (hs : MeasurableSet s) :
    ∫ y in q.forward Real.sigmoid '' s,
        SquashedNormal.prob rexp Real.log halfLog2Pi ⟨⟨μ, σ⟩, q⟩ y
      = ∫ x in s, Normal.prob rexp Real.log halfLog2Pi ⟨μ, σ⟩ x := by
  rw [integral_image_eq_integral_abs_deriv_smul hs
    (fun x _ => (squash_hasDeriv q x).hasDerivWithinAt)
    ((squash_strictMono q h).injective.injOn)]
  congr 1
  funext x
  rw [abs_of_pos (squash_deriv_pos q h x), smul_eq_mul, mul_comm]
  exact squashed_logprob_is_pushforward_density halfLog2Pi ⟨⟨μ, σ⟩, q⟩ h x

/-- **the squashed density integrates to one over `(lo, hi)`** (change of variables `y = g x`) -/
theorem squashed_mass_one (μ σ : ℝ) (hσ : 0 < σ) (q : Dist.Squash ℝ) (h : q.lo < q.hi) :
    ∫ y in Ioo q.lo q.hi,
        SquashedNormal.prob rexp Real.log halfLog2Pi ⟨⟨μ, σ⟩, q⟩ y = 1 := by
  rw [← squash_image q h, squashed_sample_law μ σ q h univ MeasurableSet.univ, Measure.restrict_univ]
  exact normal_density_integral_one μ σ hσ

/-- **`sample_and_log_prob` returns the log-density of the sample it returns**, for every
    noise value `z` -/
theorem sample_and_logprob_consistent (c : ℝ) (d : SquashedNormal ℝ) (hσ : d.base.scale ≠ 0)
    (h : d.sq.lo < d.sq.hi) (z : ℝ) :
    (d.sampleAndLogProb rexp Real.log Real.sigmoid c z).2
      = d.logProb rexp Real.log c (d.sampleAndLogProb rexp Real.log Real.sigmoid c z).1 := by
  simp only [SquashedNormal.sampleAndLogProb, SquashedNormal.logProb]
  rw [squash_inverse_forward d.sq h, ildj_forward d.sq h,
    ← normal_sample_and_logprob_consistent c d.base.loc d.base.scale hσ z]
  ring

/-- the sample returned by `sample_and_log_prob` is the one `sample` returns: `g(μ + σz)` -/
theorem squashed_sample_eq (c : ℝ) (d : SquashedNormal ℝ) (z : ℝ) :
    (d.sampleAndLogProb rexp Real.log Real.sigmoid c z).1 = d.sample Real.sigmoid z := rfl

/-- **samples lie strictly inside `(lo, hi)`** … -/
theorem squashed_sample_in_bounds (d : SquashedNormal ℝ) (h : d.sq.lo < d.sq.hi) (z : ℝ) :
    d.sq.lo < d.sample Real.sigmoid z ∧ d.sample Real.sigmoid z < d.sq.hi :=
  squash_range d.sq h _

/-- … and so does the mode -/
theorem squashed_mode_in_bounds (d : SquashedNormal ℝ) (h : d.sq.lo < d.sq.hi) :
    d.sq.lo < d.mode Real.sigmoid ∧ d.mode Real.sigmoid < d.sq.hi :=
  squash_range d.sq h _

/-- **log-density of the squashed diagonal normal = sum of the component squashed
    log-densities** -/
theorem squashed_diag_logprob_sum (c : ℝ) (loc scale : List ℝ) (sqs : List (Dist.Squash ℝ))
    (y : List ℝ) (hl : scale.length = loc.length) (hq : sqs.length = loc.length)
    (hy : y.length = loc.length) (hs : ∀ s ∈ scale, 0 < s) :
    SquashedDiag.logProb rexp Real.log c ⟨⟨loc, scale⟩, sqs⟩ y
      = (List.zipWith (fun (d : SquashedNormal ℝ) yi => d.logProb rexp Real.log c yi)
          (SquashedDiag.components ⟨⟨loc, scale⟩, sqs⟩) y).sum := by
  unfold SquashedDiag.logProb
  rw [diag_normal_logprob_sum c loc scale _ hl (by simp [SquashedDiag.inverse, hq, hy]) hs]
  simp only [SquashedDiag.components, SquashedDiag.inverse]
  have hc : (DiagNormal.components ⟨loc, scale⟩).length = loc.length := by
    simp [DiagNormal.components, hl]
  -- both sides are now sums over `comps`, `sqs`, `y`: forget where `comps` comes from and induct on
  -- the three lists (the `ildj` term is added componentwise)
  rw [← hc] at hq hy
  generalize DiagNormal.components ⟨loc, scale⟩ = comps at hq hy
  induction comps, sqs, y, hq, hy using ListFacts.list_induction₃ with
  | nil => simp
  | cons b q y0 bs qs ys _ _ ih =>
      simp only [List.zipWith_cons_cons, List.sum_cons, SquashedNormal.logProb] at ih ⊢
      rw [add_add_add_comm, ih]

/-- every component of a squashed diagonal sample lies inside its bounds -/
theorem squashed_diag_sample_in_bounds (d : SquashedDiag ℝ) (h : ∀ q ∈ d.sqs, q.lo < q.hi)
    (x : List ℝ) : ∀ p ∈ d.sqs.zip (d.forward Real.sigmoid x), p.1.lo < p.2 ∧ p.2 < p.1.hi := by
  intro p hp
  obtain ⟨i, hi, rfl⟩ := List.getElem_of_mem hp
  rw [List.getElem_zip]
  simp only [SquashedDiag.forward, List.getElem_zipWith]
  exact squash_range _ (h _ (List.getElem_mem _)) _

/-- mass of the product laws — **partial**: the joint density of a diagonal normal / squashed
    diagonal normal is the product of the component densities (`exp` of the sum proved above) and
    every component density integrates to one over its support; the step from there to "the joint
    density integrates to one over the box" (Fubini over `ℝⁿ`) is not machine-checked. -/
theorem product_density_mass_one_partial (loc scale : List ℝ) (sqs : List (Dist.Squash ℝ))
    (hl : scale.length = loc.length) (hq : sqs.length = loc.length)
    (hs : ∀ s ∈ scale, 0 < s) (hb : ∀ q ∈ sqs, q.lo < q.hi) :
    (∀ v : List ℝ, v.length = loc.length →
        DiagNormal.prob rexp Real.log halfLog2Pi ⟨loc, scale⟩ v
          = rexp (List.zipWith (fun (d : Normal ℝ) x => d.logProb Real.log halfLog2Pi x)
              (DiagNormal.components ⟨loc, scale⟩) v).sum) ∧
    (∀ y : List ℝ, y.length = loc.length →
        SquashedDiag.prob rexp Real.log halfLog2Pi ⟨⟨loc, scale⟩, sqs⟩ y
          = rexp (List.zipWith (fun (d : SquashedNormal ℝ) yi => d.logProb rexp Real.log halfLog2Pi yi)
              (SquashedDiag.components ⟨⟨loc, scale⟩, sqs⟩) y).sum) ∧
    (∀ d ∈ DiagNormal.components ⟨loc, scale⟩,
        ∫ x, Normal.prob rexp Real.log halfLog2Pi d x = 1) ∧
    (∀ d ∈ SquashedDiag.components ⟨⟨loc, scale⟩, sqs⟩,
        ∫ y in Ioo d.sq.lo d.sq.hi, SquashedNormal.prob rexp Real.log halfLog2Pi d y = 1) := by
  have hcomp : ∀ d ∈ DiagNormal.components ⟨loc, scale⟩, 0 < d.scale :=
    ListFacts.forall_mem_zipWith _ loc scale fun _ _ s hs' => hs s hs'
  refine ⟨?_, ?_, ?_, ?_⟩
  · intro v hv
    unfold DiagNormal.prob
    rw [diag_normal_logprob_sum halfLog2Pi loc scale v hl hv hs]
  · intro y hy
    unfold SquashedDiag.prob
    rw [squashed_diag_logprob_sum halfLog2Pi loc scale sqs y hl hq hy hs]
  · intro d hd
    exact normal_density_integral_one d.loc d.scale (hcomp d hd)
  · exact ListFacts.forall_mem_zipWith _ _ sqs fun b hb' q hq' =>
      squashed_mass_one _ _ (hcomp b hb') q (hb q hq')

example : ∫ x, Normal.prob rexp Real.log halfLog2Pi ⟨1, 2⟩ x = 1 :=
  normal_density_integral_one 1 2 (by norm_num)

example : ∫ y in Ioo (-1 : ℝ) 3, SquashedNormal.prob rexp Real.log halfLog2Pi ⟨⟨1, 2⟩, ⟨-1, 3⟩⟩ y = 1 :=
  squashed_mass_one 1 2 (by norm_num) ⟨-1, 3⟩ (by norm_num)

example : (⟨-1, 3⟩ : Dist.Squash ℝ).forward Real.sigmoid 0 = 1 := by
  norm_num [Squash.forward]

end Lerax.C15
