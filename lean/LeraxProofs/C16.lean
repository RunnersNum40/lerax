/-
  C16 — Masked actions are never chosen; key-less policies act greedily.

  Theorems about the mask functions of `LeraxModel/Dist.lean` and the selection logic of
  `LeraxModel/Policy.lean`, over the same numbers as `C15.lean`, for every mask that leaves a finite
  logit, every noise vector / uniform draw, every ε.  The masked law is `Cat.ofLogits` of the masked
  logits, hence in normal form; mode and samples lie in its support (`C15`), and its support lies
  inside the mask (`mask_support`).  The policy theorems unfold the selection logic onto these.
-/
import LeraxModel.Dist
import LeraxModel.Policy
import LeraxProofs.C15

namespace Lerax.C16
open Lerax.Dist Lerax.Policy Lerax.C15

set_option linter.unusedSectionVars false

variable {α : Type} [Field α] [LinearOrder α] [IsStrictOrderedRing α]
variable {exp log : α → α}

theorem maskLogits_eq_zipWith (m : List Bool) (L : List (Option α)) :
    maskLogits m L = List.zipWith (fun b l => if b then l else none) m L :=
  ListFacts.eq_zipWith_of_eqns (fun _ _ _ _ => rfl) (fun _ => rfl) (fun _ _ => rfl) m L

theorem maskLogits_length (m : List Bool) (L : List (Option α)) :
    (maskLogits m L).length = min m.length L.length := by
  rw [maskLogits_eq_zipWith]
  exact List.length_zipWith

theorem maskLogits_getD : ∀ (m : List Bool) (L : List (Option α)) (i : Nat),
    (maskLogits m L).getD i none = if m.getD i false then L.getD i none else none
  | [], _, _ => rfl
  | _ :: _, [], _ => (ite_self _).symm
  | _ :: _, _ :: _, 0 => rfl
  | _ :: bs, _ :: ls, i + 1 => maskLogits_getD bs ls i

theorem maskLogits_map {β : Type} (f : Option α → β) (m : List Bool) (L : List (Option α)) :
    (maskLogits m L).map f
      = List.zipWith (fun (b : Bool) p => if b then p else f none) m (L.map f) := by
  rw [maskLogits_eq_zipWith, List.map_zipWith, List.zipWith_map_right]
  congr
  funext b l
  cases b <;> rfl

theorem maskLogits_finite_allowed (m : List Bool) (L : List (Option α)) (i : Nat) (x : α)
    (h : (maskLogits m L).getD i none = some x) : m.getD i false = true ∧ L.getD i none = some x := by
  rw [maskLogits_getD] at h
  split_ifs at h with hm
  exact ⟨hm, h⟩

/-- when every logit is finite, one allowed in-range action makes the masked logits have a
    finite entry ("a mask with at least one allowed action") -/
theorem hasFinite_mask_of_allowed (m : List Bool) (q : List α) (i : Nat) (hi : i < q.length)
    (hm : m[i]? = some true) : HasFinite (maskLogits m (q.map some)) := by
  rw [hasFinite_iff_getD]
  refine ⟨i, q[i], ?_⟩
  rw [maskLogits_getD, List.getD_eq_getElem?_getD, hm, List.getD_eq_getElem?_getD,
    List.getElem?_map, List.getElem?_eq_getElem hi]
  rfl

theorem map_sub_get (L : List (Option α)) (z : α) (i : Nat) :
    (L.map (fun x => x.map (· - z)))[i]? = (L[i]?).map (fun x => x.map (· - z)) := by
  simp

theorem hasFinite_mask_logSoftmax (m : List Bool) (L : List (Option α))
    (h : HasFinite (maskLogits m L)) : HasFinite (maskLogits m (logSoftmax exp log L)) := by
  rw [hasFinite_iff_getD] at h ⊢
  obtain ⟨i, x, hx⟩ := h
  obtain ⟨hm, hl⟩ := maskLogits_finite_allowed m L i x hx
  exact ⟨i, x - log (sumExp exp L), by rw [maskLogits_getD, hm, logSoftmax_getD, hl]; rfl⟩

section masked

theorem mask_getLogits (c : Cat α) (m : List Bool) :
    (c.mask exp log m).getLogits log = logSoftmax exp log (maskLogits m (c.getLogits log)) := rfl

/-- the support of the masked law lies inside the mask: a point of finite log-probability is an
    index the mask allows -/
theorem mask_support (c : Cat α) (m : List Bool) (v : Nat) (x : α)
    (h : (c.mask exp log m).logProb log (v : Int) = some x) :
    v < m.length ∧ m.getD v false = true := by
  rw [logProb_nat, mask_getLogits, logSoftmax_getD] at h
  obtain ⟨y, hy, _⟩ := Option.map_eq_some_iff.mp h
  have hm := (maskLogits_finite_allowed m _ v y hy).1
  exact ⟨lt_length_of_getD_ne m v false (by rw [hm]; exact Bool.noConfusion), hm⟩

variable (E : ExpLog exp log)
include E

theorem mask_normal (c : Cat α) (m : List Bool) (hf : HasFinite (maskLogits m (c.getLogits log))) :
    Cat.Normal exp (c.mask exp log m) :=
  ofLogits_normal E _ hf

/-- **a masked action has probability zero** (and log-probability `-∞`) -/
theorem masked_prob_zero (c : Cat α) (m : List Bool)
    (hf : HasFinite (maskLogits m (c.getLogits log))) (v : Nat) (hv : m.getD v false = false) :
    (c.mask exp log m).prob exp (v : Int) = 0 ∧ (c.mask exp log m).logProb log (v : Int) = none := by
  have hlp : (c.mask exp log m).logProb log (v : Int) = none := by
    -- entry `v` of the masked logits is `none`, and so is its normalised value
    rw [logProb_nat, mask_getLogits, logSoftmax_getD, maskLogits_getD, hv]
    rfl
  exact ⟨prob_zero_of_logprob_none E _ (mask_normal E c m hf) _ hlp, hlp⟩

set_option linter.unusedVariables false in
/-- **the remaining probabilities are renormalised proportionally**: the masked probability
    vector is `p_i / Σ_{j allowed} p_j` on allowed entries and `0` on masked ones, `p` being the
    probabilities of the unmasked law (the equation holds without `hf`) -/
theorem masked_renormalised (c : Cat α) (hc : Cat.Normal exp c) (m : List Bool)
    (hf : HasFinite (maskLogits m (c.getLogits log))) :
    (c.mask exp log m).getProbs exp =
      List.zipWith (fun (b : Bool) p =>
          if b then p / (List.zipWith (fun (b : Bool) p => if b then p else 0) m (c.getProbs exp)).sum
          else 0)
        m (c.getProbs exp) := by
  have h1 : (c.mask exp log m).getProbs exp = softmax exp (maskLogits m (c.getLogits log)) :=
    softmax_logSoftmax E _
  rw [h1, getProbs_eq_map E c hc]
  -- both sides are a `zipWith` over the mask and `exp` of the logits; a masked entry is
  -- `eexp none / s = 0 / s`
  simp only [softmax, sumExp, maskLogits_map, List.zipWith_map_right, eexp, zero_div]

end masked

/-- **the mode of a masked law is an allowed action** -/
theorem masked_mode_allowed (c : Cat α) (m : List Bool)
    (hf : HasFinite (maskLogits m (c.getLogits log))) :
    (c.mask exp log m).mode < m.length ∧ m.getD (c.mask exp log m).mode false = true := by
  obtain ⟨x, hx⟩ := argmax_elt_finite _ (hasFinite_logSoftmax (exp := exp) (log := log) _ hf)
  exact mask_support c m _ x ((logProb_nat _ _).trans hx)

/-- **a sample of a masked law is an allowed action, for every noise vector** -/
theorem masked_sample_allowed (c : Cat α) (m : List Bool)
    (hf : HasFinite (maskLogits m (c.getLogits log))) (noise : List α) :
    (c.mask exp log m).sample log noise < m.length ∧
      m.getD ((c.mask exp log m).sample log noise) false = true := by
  obtain ⟨_, x, hx⟩ := sample_in_support_of_finite (c.mask exp log m)
    (hasFinite_logSoftmax (exp := exp) (log := log) _ hf) noise
  exact mask_support c m _ x hx

/-- **a masked bit is never set**: its probability of `1` is zero, the mode is `0` and every
    sample (any uniform draw `u ≥ 0`) is `0` -/
theorem bernoulli_masked_bit_false (b : Bern α) :
    (b.mask log false).prob exp true = 0 ∧ (b.mask log false).mode exp = false ∧
      ∀ u : α, 0 ≤ u → (b.mask log false).sample exp u = false := by
  -- a masked bit is `ofLogit none`
  have hp : (b.mask log false).p1 exp = 0 := rfl
  refine ⟨hp, ?_, fun u hu => ?_⟩
  · rw [Bern.mode, hp]
    exact decide_eq_false half_pos.not_gt
  · rw [Bern.sample, hp]
    exact decide_eq_false hu.not_gt

/-- an unmasked bit of a logit-form law keeps its law -/
theorem bernoulli_unmasked_bit (l : Option α) : (Bern.ofLogit l).mask log true = Bern.ofLogit l := rfl

theorem maskBits_eq_zipWith (bs : List (Bern α)) (m : List Bool) :
    maskBits log bs m = List.zipWith (fun b a => b.mask log a) bs m :=
  ListFacts.eq_zipWith_of_eqns (fun _ _ _ _ => rfl) (fun _ => rfl) (fun _ _ => rfl) bs m

theorem sampleBits_eq_zipWith (bs : List (Bern α)) (us : List α) :
    sampleBits exp bs us = List.zipWith (fun b u => b.sample exp u) bs us :=
  ListFacts.eq_zipWith_of_eqns (fun _ _ _ _ => rfl) (fun _ => rfl) (fun _ _ => rfl) bs us

theorem allZip_masked_bits (xs m : List Bool) (hl : xs.length = m.length)
    (h : ∀ i (h₁ : i < xs.length) (h₂ : i < m.length), m[i] = false → xs[i] = false) :
    allZip (fun (b : Bool) (a : Bool) => !b || a) xs m = true := by
  rw [allZip_iff_forall₂, List.forall₂_iff_get]
  refine ⟨hl, fun i h₁ h₂ => ?_⟩
  simp only [List.get_eq_getElem]
  cases hm : m[i]
  · rw [h i h₁ h₂ hm]; rfl
  · exact Bool.or_true _

/-- vector form: wherever the mask is `false` the mode bit is `false` (for samples see
    `ac_multibinary_sample_allowed`) -/
theorem bernoulli_vector_mode_masked (bs : List (Bern α)) (m : List Bool) (h : m.length = bs.length) :
    allZip (fun (b : Bool) (a : Bool) => !b || a) ((maskBits log bs m).map (Bern.mode exp)) m = true := by
  rw [maskBits_eq_zipWith]
  refine allZip_masked_bits _ m (by simp [h]) fun i h₁ h₂ hm => ?_
  rw [List.getElem_map, List.getElem_zipWith, hm]
  exact (bernoulli_masked_bit_false _).2.1

theorem length_getLogits' (c : Cat α) : (c.getLogits log).length = c.n := length_getLogits c

theorem maskSeq_eq_zipWith (mc : MultiCat α) (ms : List (List Bool))
    (h : List.Forall₂ (fun (c : Cat α) m => m.length = c.n) mc ms) :
    mc.maskSeq exp log ms = List.zipWith (fun c m => c.mask exp log m) mc ms := by
  -- masking keeps the sizes, so splitting the concatenation gives the masked pieces back
  have hd : mc.dims
      = (List.zipWith (fun c m => maskLogits m (c.getLogits log)) mc ms).map List.length := by
    induction h with
    | nil => rfl
    | @cons c m cs ms h0 _ ih =>
        show c.n :: MultiCat.dims cs = (maskLogits m (c.getLogits log)).length :: _
        rw [maskLogits_length, length_getLogits, h0, Nat.min_self, ih]
  unfold MultiCat.maskSeq
  rw [hd, flat_eq_sequence]
  exact List.map_zipWith

/-- **the mask of a product law is the product of the masked components** (sequence form),
    whenever the mask pieces have the components' sizes -/
theorem multicat_mask_componentwise (mc : MultiCat α) (ms : List (List Bool))
    (hl : ms.length = mc.length) (hs : ∀ p ∈ mc.zip ms, p.2.length = p.1.n) :
    mc.maskSeq exp log ms = List.zipWith (fun c m => c.mask exp log m) mc ms :=
  maskSeq_eq_zipWith mc ms (List.forall₂_iff_zip.mpr ⟨hl.symm, fun h => hs _ h⟩)

/-- a flat mask is split by the law's own `action_dims` and then applied component-wise -/
theorem multicat_mask_flat (mc : MultiCat α) (m : List Bool) (h : m.length = mc.dims.sum) :
    mc.maskFlat exp log m = List.zipWith (fun c mi => c.mask exp log mi) mc (splitBy mc.dims m) := by
  -- `mc.dims` is `mc.map Cat.n`: equal length lists become a `Forall₂` between pieces and laws
  have := (splitBy_spec mc.dims m h).2
  rw [← List.forall₂_eq_eq_eq, List.forall₂_map_left_iff] at this
  exact maskSeq_eq_zipWith mc _ (List.forall₂_map_right_iff.mp this).flip

theorem zipWith_mask_allowed (mc : MultiCat α) (ms : List (List Bool))
    (h : List.Forall₂ (fun (c : Cat α) m => HasFinite (maskLogits m (c.getLogits log))) mc ms)
    (noise : List (List α)) :
    allZip (fun (mi : List Bool) n => mi.getD n false) ms
        (MultiCat.mode (List.zipWith (fun c m => c.mask exp log m) mc ms)) = true ∧
    allZip (fun (mi : List Bool) n => mi.getD n false) ms
        (MultiCat.sample log (List.zipWith (fun c m => c.mask exp log m) mc ms) noise) = true := by
  induction h generalizing noise with
  | nil => cases noise <;> exact ⟨rfl, rfl⟩
  | cons h0 _ ih =>
      refine ⟨Bool.and_eq_true_iff.mpr ⟨(masked_mode_allowed _ _ h0).2, (ih []).1⟩, ?_⟩
      cases noise with
      | nil => exact Bool.and_eq_true_iff.mpr ⟨(masked_sample_allowed _ _ h0 []).2, (ih []).2⟩
      | cons g gs => exact Bool.and_eq_true_iff.mpr ⟨(masked_sample_allowed _ _ h0 g).2, (ih gs).2⟩

/-- hence every component of a masked product law chooses allowed actions only -/
theorem multicat_masked_allowed (mc : MultiCat α) (ms : List (List Bool))
    (hl : ms.length = mc.length) (hs : ∀ p ∈ mc.zip ms, p.2.length = p.1.n)
    (hf : ∀ p ∈ mc.zip ms, HasFinite (maskLogits p.2 (p.1.getLogits log))) (noise : List (List α)) :
    allZip (fun (mi : List Bool) n => mi.getD n false) ms (MultiCat.mode (mc.maskSeq exp log ms)) = true ∧
    allZip (fun (mi : List Bool) n => mi.getD n false) ms
      (MultiCat.sample log (mc.maskSeq exp log ms) noise) = true := by
  rw [multicat_mask_componentwise mc ms hl hs]
  exact zipWith_mask_allowed mc ms (List.forall₂_iff_zip.mpr ⟨hl.symm, fun h => hf _ h⟩) noise

/-- **without a key an actor-critic policy returns the mode** of the (masked) law -/
theorem policy_no_key_is_mode (head : Law α) (mask : Option Mask) :
    acCall exp log head mask none = (actionLayer exp log head mask).mode exp := rfl

/-- with a key it returns a sample of that same law -/
theorem policy_key_is_sample (head : Law α) (mask : Option Mask) (nz : Noise α) :
    acCall exp log head mask (some nz) = (actionLayer exp log head mask).sample exp log nz := rfl

/-- the mask is applied exactly when the law is maskable -/
theorem actionLayer_masked (head : Law α) (m : Mask) (h : head.maskable = true) :
    actionLayer exp log head (some m) = head.mask exp log m :=
  if_pos h

theorem actionLayer_unmaskable (head : Law α) (m : Mask) (h : head.maskable = false) :
    actionLayer exp log head (some m) = head :=
  if_neg (h ▸ Bool.noConfusion)

theorem actionLayer_maskable (head : Law α) (mask : Option Mask) :
    (actionLayer exp log head mask).maskable = head.maskable := by
  cases mask with
  | none => rfl
  | some m => cases head <;> cases m <;> rfl

/-- a maskable (discrete) law has no `sample_and_log_prob` of its own: it samples, then asks
    itself for the log-probability -/
theorem sampleAndLogProb_of_maskable (c : α) : ∀ (l : Law α), l.maskable = true → ∀ nz : Noise α,
    l.sampleAndLogProb exp log c nz = (l.sample exp log nz, l.logProb exp log c (l.sample exp log nz))
  | .cat _, _, _ | .bern _, _, _ | .multicat _, _, _ => rfl

/-- **with a key the policy samples from the very law whose log-probability it reports**
    (discrete laws): `action_and_value` returns the action `__call__` returns under the same
    key and mask, together with that law's log-probability of this action -/
theorem policy_key_samples_same_law (c : α) (head : Law α) (value : α) (mask : Option Mask)
    (nz : Noise α) (hd : head.maskable = true) :
    (acActionAndValue exp log c head value mask nz).1 = acCall exp log head mask (some nz) ∧
    (acActionAndValue exp log c head value mask nz).2.2
      = (actionLayer exp log head mask).logProb exp log c (acCall exp log head mask (some nz)) ∧
    (acEvaluate exp log c head value mask (acCall exp log head mask (some nz))).2
      = (acActionAndValue exp log c head value mask nz).2.2 := by
  have h := sampleAndLogProb_of_maskable (exp := exp) (log := log) c (actionLayer exp log head mask)
    ((actionLayer_maskable head mask).trans hd) nz
  exact ⟨congrArg Prod.fst h, congrArg Prod.snd h, (congrArg Prod.snd h).symm⟩

/-- the same for the scalar `Normal` head (never masked): the reported log-density is the law's
    log-density of the returned sample, provided the scale is non-zero -/
theorem policy_key_samples_same_law_normal (c : α) (d : Normal α) (hσ : d.scale ≠ 0) (value : α)
    (mask : Option Mask) (z : α) :
    (acActionAndValue exp log c (.normal d) value mask (.z z)).1
        = acCall exp log (.normal d) mask (some (.z z)) ∧
    (acActionAndValue exp log c (.normal d) value mask (.z z)).2.2
      = (Law.normal d).logProb exp log c (acCall exp log (.normal d) mask (some (.z z))) := by
  have hl : actionLayer exp log (.normal d) mask = .normal d := by
    cases mask with
    | none => rfl
    | some m => exact actionLayer_unmaskable _ m rfl
  unfold acActionAndValue acCall
  rw [hl]
  exact ⟨rfl, congrArg some (normal_sampleAndLogProb_eq c d hσ z)⟩

/-- **without a key the Q policy is greedy** -/
theorem q_no_key_is_mode (q : List α) (mask : Option (List Bool)) (eps : α) :
    qSelect exp log q mask eps none = (qDist exp log q mask).mode := rfl

theorem qSelect_some (q : List α) (mask : Option (List Bool)) (eps u : α) (g : List α) :
    qSelect exp log q mask eps (some (u, g)) =
      if 0 < eps then
        if u < eps then (qDist exp log q mask).sample log g else (qDist exp log q mask).mode
      else (qDist exp log q mask).mode := rfl

/-- **the Q policy departs from the greedy action only if `u < ε`** (`u` the uniform draw), so
    with `u ~ U[0,1)` the departure probability is at most `ε` -/
theorem q_departs_only_if_u_lt_eps (q : List α) (mask : Option (List Bool)) (eps : α)
    (key : Option (α × List α))
    (h : qSelect exp log q mask eps key ≠ (qDist exp log q mask).mode) :
    ∃ u g, key = some (u, g) ∧ u < eps ∧ 0 < eps ∧
      qSelect exp log q mask eps key = (qDist exp log q mask).sample log g := by
  cases key with
  | none => exact absurd rfl h
  | some k =>
      obtain ⟨u, g⟩ := k
      rw [qSelect_some] at h ⊢
      split_ifs at h ⊢ with he hu
      · exact ⟨u, g, rfl, hu, he, rfl⟩
      · exact absurd rfl h
      · exact absurd rfl h

/-- **with `ε ≤ 0` the Q policy is greedy**, whatever the key -/
theorem q_eps_nonpos_is_mode (q : List α) (mask : Option (List Bool)) (eps : α) (h : eps ≤ 0)
    (key : Option (α × List α)) :
    qSelect exp log q mask eps key = (qDist exp log q mask).mode := by
  by_contra hne
  obtain ⟨_, _, _, _, he, _⟩ := q_departs_only_if_u_lt_eps q mask eps key hne
  exact absurd he (not_lt.mpr h)

set_option linter.unusedVariables false in
/-- **in every mode (greedy, stochastic, ε-greedy) the Q policy chooses an allowed action**
    (`hq` follows from `hf`, and `E` is not needed) -/
theorem q_policy_allowed_all_modes (q : List α) (m : List Bool) (eps : α)
    (hf : HasFinite (maskLogits m (q.map some))) (hq : HasFinite (q.map some))
    (E : ExpLog exp log) (key : Option (α × List α)) :
    qSelect exp log q (some m) eps key < m.length ∧
      m.getD (qSelect exp log q (some m) eps key) false = true := by
  -- the masked law is built from the normalised logits of `Categorical(logits=q)`
  have hf' : HasFinite (maskLogits m ((Cat.ofLogits exp log (q.map some)).getLogits log)) :=
    hasFinite_mask_logSoftmax m _ hf
  by_cases h : qSelect exp log q (some m) eps key = (qDist exp log q (some m)).mode
  · rw [h]
    exact masked_mode_allowed _ m hf'
  · obtain ⟨_, g, _, _, _, hs⟩ := q_departs_only_if_u_lt_eps q (some m) eps key h
    rw [hs]
    exact masked_sample_allowed _ m hf' g

/-- without a key the SAC policy returns the mode `g(μ)` … -/
theorem sac_no_key_is_mode (sig : α → α) (d : SquashedNormal α) :
    sacCall sig d none = d.mode sig := rfl

/-- … with a key the sample whose log-density `action_and_log_prob` reports (see
    `C15.sample_and_logprob_consistent`) -/
theorem sac_key_samples_same_law (sig : α → α) (c : α) (d : SquashedNormal α) (z : α) :
    (sacActionAndLogProb exp log sig c d z).1 = sacCall sig d (some z) := rfl

theorem sac_diag_no_key_is_mode (sig : α → α) (d : SquashedDiag α) :
    sacCallDiag sig d none = d.mode sig := rfl

theorem sac_diag_key_samples_same_law (sig : α → α) (c : α) (d : SquashedDiag α) (z : List α) :
    (sacActionAndLogProbDiag exp log sig c d z).1 = sacCallDiag sig d (some z) := rfl

/-- **Discrete actions**: with any key or none, the action is an allowed category -/
theorem ac_discrete_action_allowed (c : Cat α) (m : List Bool)
    (hf : HasFinite (maskLogits m (c.getLogits log))) (key : Option (List α)) :
    allowedAct [] (.flat m)
      (acCall exp log (.cat c) (some (.flat m)) (key.map Noise.gumbel)) = true := by
  cases key with
  | none => exact (masked_mode_allowed c m hf).2
  | some g => exact (masked_sample_allowed c m hf g).2

/-- **Multi-discrete actions**: every component of the action is allowed by its mask piece -/
theorem ac_multidiscrete_action_allowed (mc : MultiCat α) (ms : List (List Bool))
    (hl : ms.length = mc.length) (hs : ∀ p ∈ mc.zip ms, p.2.length = p.1.n)
    (hf : ∀ p ∈ mc.zip ms, HasFinite (maskLogits p.2 (p.1.getLogits log)))
    (key : Option (List (List α))) :
    allowedAct [] (.seq ms)
      (acCall exp log (.multicat mc) (some (.seq ms)) (key.map Noise.gumbels)) = true := by
  cases key with
  | none => exact (multicat_masked_allowed mc ms hl hs hf []).1
  | some g => exact (multicat_masked_allowed mc ms hl hs hf g).2

/-- **Multi-binary actions** without a key: no masked bit is set -/
theorem ac_multibinary_mode_allowed (bs : List (Bern α)) (m : List Bool) (h : m.length = bs.length) :
    allowedAct [] (.flat m) (acCall exp log (.bern bs) (some (.flat m)) none) = true :=
  bernoulli_vector_mode_masked bs m h

/-- **Multi-binary actions** with a key: no masked bit is ever sampled (uniform draws `≥ 0`) -/
theorem ac_multibinary_sample_allowed (bs : List (Bern α)) (m : List Bool) (us : List α)
    (h : m.length = bs.length) (hu : us.length = bs.length) (hu0 : ∀ u ∈ us, 0 ≤ u) :
    allowedAct [] (.flat m) (acCall exp log (.bern bs) (some (.flat m)) (some (.unif us))) = true := by
  show allZip (fun (b : Bool) (a : Bool) => !b || a) (sampleBits exp (maskBits log bs m) us) m = true
  rw [maskBits_eq_zipWith, sampleBits_eq_zipWith]
  refine allZip_masked_bits _ m (by simp [h, hu]) fun i h₁ h₂ hm => ?_
  rw [List.getElem_zipWith, List.getElem_zipWith, hm]
  exact (bernoulli_masked_bit_false _).2.2 _ (hu0 _ (List.getElem_mem _))

/-- `phiMasked` (masked probabilities zero, the others renormalised proportionally) holds for
    the model's masked law -/
theorem phiMasked_model (E : ExpLog exp log) (c : Cat α) (hc : Cat.Normal exp c) (m : List Bool)
    (hlen : m.length = c.n) (hf : HasFinite (maskLogits m (c.getLogits log))) :
    phiMasked (fun a b => decide (a = b)) m (c.getProbs exp) ((c.mask exp log m).getProbs exp) = true := by
  have hl : m.length = (c.getProbs exp).length := hlen.trans (length_getProbs c).symm
  rw [masked_renormalised E c hc m hf]
  simp only [phiMasked, Bool.and_eq_true, beq_iff_eq]
  refine ⟨⟨by simp [hl], hl⟩, ?_⟩
  generalize (List.sum _ : α) = z
  rw [← List.map_uncurry_zip_eq_zipWith]
  refine allZip_self_map _ _ _ fun mp _ => ?_
  obtain ⟨b, p⟩ := mp
  cases b <;> exact decide_eq_true rfl

/-- the log-space form `phiMaskedLog` holds for the model's masked law: its log-probabilities
    are the allowed log-probabilities minus the log of the allowed mass -/
theorem phiMaskedLog_model (c : Cat α) (m : List Bool) (hlen : m.length = c.n) :
    phiMaskedLog exp log (fun a b => decide (a = b)) m (c.getLogits log)
      ((c.mask exp log m).getLogits log) = true := by
  have hl : m.length = (c.getLogits log).length := by rw [length_getLogits, hlen]
  rw [mask_getLogits]
  simp only [phiMaskedLog, Bool.and_eq_true, beq_iff_eq]
  refine ⟨⟨?_, hl⟩, ?_⟩
  · simp [logSoftmax, maskLogits_length, hl]
  · unfold logSoftmax sumExp
    apply allZip_self_map
    intro x _
    cases x <;> simp [eeqv]

/-- `allowed` holds for the mode and for every sample of a masked law -/
theorem allowed_mode_model (c : Cat α) (m : List Bool)
    (hf : HasFinite (maskLogits m (c.getLogits log))) :
    allowed m ((c.mask exp log m).mode : Int) = true := by
  simp only [allowed, Int.toNat_natCast, Bool.and_eq_true, decide_eq_true_eq]
  exact ⟨Int.natCast_nonneg _, (masked_mode_allowed c m hf).2⟩

theorem allowed_sample_model (c : Cat α) (m : List Bool)
    (hf : HasFinite (maskLogits m (c.getLogits log))) (noise : List α) :
    allowed m ((c.mask exp log m).sample log noise : Int) = true := by
  simp only [allowed, Int.toNat_natCast, Bool.and_eq_true, decide_eq_true_eq]
  exact ⟨Int.natCast_nonneg _, (masked_sample_allowed c m hf noise).2⟩

/-- the hypotheses are satisfiable over ℝ: logits `[0, 1, 2]`, mask `[true, false, true]` -/
example : HasFinite (maskLogits [true, false, true] ([some (0 : ℝ), some 1, some 2])) :=
  ⟨0, by simp [maskLogits]⟩

example : (maskLogits [true, false, true] ([some (0 : ℝ), some 1, some 2])) = [some 0, none, some 2] := by
  simp [maskLogits]

example :
    ((Cat.ofLogits Real.exp Real.log [some (0 : ℝ), some 1, some 2]).mask Real.exp Real.log
        [true, false, true]).prob Real.exp (1 : Int) = 0 :=
  (masked_prob_zero expLog_real _ _ ⟨_, List.mem_cons_self⟩ 1
    (by simp)).1

end Lerax.C16
