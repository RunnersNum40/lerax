/-
  C20 — Unitree G1: episodes are randomised within range and the gait phase stays coherent.
  Theorems about `Lerax.G1` over an arbitrary linearly ordered field, for every draw within its
  range, every configured range, all three tasks, every gait frequency / control period ≥ 0 and
  every step history.  `pi` is any positive number; C's `fmod` is a parameter constrained by
  `FmodSpec`, discharged for every floor ring (in particular ℝ) at the end of the file.
-/
import LeraxModel.G1
import Mathlib.Algebra.Order.Field.Basic
import Mathlib.Algebra.Order.Floor.Ring
import Mathlib.Data.List.GetD
import Mathlib.Algebra.Order.Archimedean.Real.Basic
import Mathlib.Tactic.LinearCombination
import Mathlib.Tactic.FieldSimp
import Mathlib.Tactic.Positivity
import Mathlib.Tactic.Ring
import Mathlib.Tactic.Linarith

namespace Lerax.C20
open Lerax.G1

set_option linter.unusedSectionVars false

section gait
variable {α : Type} [Field α] [LinearOrder α] [IsStrictOrderedRing α]

/-- the contract of C `fmod` used by the gait clock (non-negative dividend, positive divisor) -/
structure FmodSpec (fmod : α → α → α) : Prop where
  spec : ∀ a p : α, 0 ≤ a → 0 < p →
    0 ≤ fmod a p ∧ fmod a p < p ∧ ∃ k : ℕ, a = fmod a p + (k : α) * p

/-- the wrap `fmod (x + pi) (2 pi) - pi` lands in `[-pi, pi)`, congruent to `x`; `C17.wrapPi_spec`
    is the same fact for the `PmodSpec` contract of the classic-control environments -/
theorem advance1_spec (pi : α) (fmod : α → α → α) (hm : FmodSpec fmod) (hpi : 0 < pi)
    (ph f dt : α) (hf : 0 ≤ f) (hdt : 0 ≤ dt) (hlo : -pi ≤ ph) :
    -pi ≤ advance1 pi fmod ph f dt ∧ advance1 pi fmod ph f dt < pi ∧
    ∃ k : ℕ, advance1 pi fmod ph f dt + (k : α) * (2 * pi) = ph + 2 * pi * f * dt := by
  have h2 : 0 < 2 * pi := mul_pos two_pos hpi
  have hinc : 0 ≤ 2 * pi * f * dt := mul_nonneg (mul_nonneg h2.le hf) hdt
  obtain ⟨h0, h1, k, hk⟩ := hm.spec (ph + 2 * pi * f * dt + pi) (2 * pi) (by linarith) h2
  simp only [advance1]
  exact ⟨by linarith, by linarith, k, by linarith⟩

/-- the closed range `[-pi, pi]` for both phases (the initial right phase is `pi` itself); a
    `Prop` about a pair, not the model's Boolean `G1.inRange` -/
def InRange (pi : α) (p : α × α) : Prop := (-pi ≤ p.1 ∧ p.1 ≤ pi) ∧ (-pi ≤ p.2 ∧ p.2 ≤ pi)

/-- For `f, dt ≥ 0` and phases in `[-pi, pi]` the next phases lie in
    `[-pi, pi)` (half-open: `+pi` itself is never produced by a step). -/
theorem phase_in_range (pi : α) (fmod : α → α → α) (hm : FmodSpec fmod) (hpi : 0 < pi)
    (p : α × α) (f dt : α) (hf : 0 ≤ f) (hdt : 0 ≤ dt) (hp : InRange pi p) :
    (-pi ≤ (advance_gait_phase pi fmod p f dt).1 ∧ (advance_gait_phase pi fmod p f dt).1 < pi) ∧
    (-pi ≤ (advance_gait_phase pi fmod p f dt).2 ∧ (advance_gait_phase pi fmod p f dt).2 < pi) := by
  obtain ⟨a1, a2, _⟩ := advance1_spec pi fmod hm hpi p.1 f dt hf hdt hp.1.1
  obtain ⟨b1, b2, _⟩ := advance1_spec pi fmod hm hpi p.2 f dt hf hdt hp.2.1
  exact ⟨⟨a1, a2⟩, ⟨b1, b2⟩⟩

/-- Each phase advances by `2·pi·f·dt` modulo `2·pi`: the next phase plus
    a whole number `k` of cycles equals the old phase plus the increment. -/
theorem phase_advance (pi : α) (fmod : α → α → α) (hm : FmodSpec fmod) (hpi : 0 < pi)
    (p : α × α) (f dt : α) (hf : 0 ≤ f) (hdt : 0 ≤ dt) (hp : InRange pi p) :
    (∃ k : ℕ, (advance_gait_phase pi fmod p f dt).1 + (k : α) * (2 * pi) = p.1 + 2 * pi * f * dt) ∧
    (∃ k : ℕ, (advance_gait_phase pi fmod p f dt).2 + (k : α) * (2 * pi) = p.2 + 2 * pi * f * dt) :=
  ⟨(advance1_spec pi fmod hm hpi p.1 f dt hf hdt hp.1.1).2.2,
   (advance1_spec pi fmod hm hpi p.2 f dt hf hdt hp.2.1).2.2⟩

theorem ofNat'_eq_cast (n : ℕ) : (ofNat' n : α) = (n : α) := by
  induction n with
  | zero => simp [ofNat']
  | succ n ih => simp [ofNat', ih]

/-- the executable clause `phiAdvance` holds of the model for a suitable number of wraps -/
theorem phi_advance (pi : α) (fmod : α → α → α) (hm : FmodSpec fmod) (hpi : 0 < pi)
    (ph f dt : α) (hf : 0 ≤ f) (hdt : 0 ≤ dt) (hlo : -pi ≤ ph) :
    ∃ k : ℕ, phiAdvance (fun a b => decide (a = b)) pi ph f dt (advance1 pi fmod ph f dt) k = true := by
  obtain ⟨_, _, k, hk⟩ := advance1_spec pi fmod hm hpi ph f dt hf hdt hlo
  exact ⟨k, by simp [phiAdvance, ofNat'_eq_cast, hk]⟩

/-- half a cycle apart: `right - left ≡ pi (mod 2 pi)` -/
def HalfCycle (pi : α) (p : α × α) : Prop := ∃ k : ℤ, p.2 - p.1 = pi + (k : α) * (2 * pi)

/-- the invariant of the gait clock -/
def Inv (pi : α) (p : α × α) : Prop := InRange pi p ∧ HalfCycle pi p

theorem inv_initial (pi : α) (hpi : 0 < pi) : Inv pi (initial_gait_phase pi) :=
  ⟨⟨⟨neg_nonpos.mpr hpi.le, hpi.le⟩, ⟨neg_le_self hpi.le, le_rfl⟩⟩, 0,
    by rw [Int.cast_zero, zero_mul, add_zero]; exact sub_zero pi⟩

theorem inv_step (pi : α) (fmod : α → α → α) (hm : FmodSpec fmod) (hpi : 0 < pi)
    (p : α × α) (f dt : α) (hf : 0 ≤ f) (hdt : 0 ≤ dt) (hp : Inv pi p) :
    Inv pi (advance_gait_phase pi fmod p f dt) := by
  obtain ⟨hr, k, hk⟩ := hp
  obtain ⟨a1, a2, ka, ha⟩ := advance1_spec pi fmod hm hpi p.1 f dt hf hdt hr.1.1
  obtain ⟨b1, b2, kb, hb⟩ := advance1_spec pi fmod hm hpi p.2 f dt hf hdt hr.2.1
  refine ⟨⟨⟨a1, a2.le⟩, ⟨b1, b2.le⟩⟩, k + (ka : ℤ) - (kb : ℤ), ?_⟩
  simp only [advance_gait_phase]
  push_cast
  linear_combination hb - ha + hk

/-- for phases in `[-pi, pi]`, half a cycle apart means `right - left = ±pi` -/
theorem half_cycle_pm (pi : α) (hpi : 0 < pi) (p : α × α) (hp : Inv pi p) :
    p.2 - p.1 = pi ∨ p.2 - p.1 = -pi := by
  obtain ⟨⟨⟨l1, l2⟩, ⟨r1, r2⟩⟩, k, hk⟩ := hp
  -- `|p.2 - p.1| ≤ 2·pi` leaves room for `k = 0` and `k = -1` only
  have h2 : 0 < 2 * pi := mul_pos two_pos hpi
  have hlt : (k : α) * (2 * pi) < ((1 : ℤ) : α) * (2 * pi) := by push_cast; linarith
  have hgt : ((-2 : ℤ) : α) * (2 * pi) < k * (2 * pi) := by push_cast; linarith
  have hk1 : k < 1 := Int.cast_lt.1 (lt_of_mul_lt_mul_right hlt h2.le)
  have hk2 : -2 < k := Int.cast_lt.1 (lt_of_mul_lt_mul_right hgt h2.le)
  obtain rfl | rfl : k = 0 ∨ k = -1 := by omega
  · left; simpa using hk
  · right; rw [hk]; push_cast; ring

theorem trace_inv (pi : α) (fmod : α → α → α) (hm : FmodSpec fmod) (hpi : 0 < pi) :
    ∀ (steps : List (α × α)) (p : α × α), Inv pi p → (∀ s ∈ steps, 0 ≤ s.1 ∧ 0 ≤ s.2) →
      ∀ q ∈ trace_phase pi fmod steps p, Inv pi q
  | [], _, hp, _, _, hq => List.mem_singleton.mp hq ▸ hp
  | (f, dt) :: rest, p, hp, hs, q, hq => by
      rcases List.mem_cons.mp hq with rfl | hq
      · exact hp
      · have h0 := hs (f, dt) List.mem_cons_self
        exact trace_inv pi fmod hm hpi rest _ (inv_step pi fmod hm hpi p f dt h0.1 h0.2 hp)
          (fun s h => hs s (List.mem_cons_of_mem _ h)) q hq

/-- Along every step history — any length,
    any per-step frequency and control period ≥ 0 — starting from the initial phases `[0, pi]`,
    every visited pair of phases lies in `[-pi, pi]` and the two phases differ by `pi` modulo
    `2·pi` (equivalently, by exactly `+pi` or `-pi`). -/
theorem phase_half_cycle (pi : α) (fmod : α → α → α) (hm : FmodSpec fmod) (hpi : 0 < pi)
    (steps : List (α × α)) (hsteps : ∀ s ∈ steps, 0 ≤ s.1 ∧ 0 ≤ s.2) :
    ∀ q ∈ trace_phase pi fmod steps (initial_gait_phase pi),
      InRange pi q ∧ HalfCycle pi q ∧ (q.2 - q.1 = pi ∨ q.2 - q.1 = -pi) :=
  fun q hq =>
    have hi := trace_inv pi fmod hm hpi steps _ (inv_initial pi hpi) hsteps q hq
    ⟨hi.1, hi.2, half_cycle_pm pi hpi q hi⟩

theorem run_mem_trace (pi : α) (fmod : α → α → α) :
    ∀ (steps : List (α × α)) (p : α × α),
      run_phase pi fmod steps p ∈ trace_phase pi fmod steps p
  | [], p => List.mem_singleton_self p
  | (_, _) :: rest, _ => List.mem_cons_of_mem _ (run_mem_trace pi fmod rest _)

/-- the executable clauses decided by the driver on implementation phases hold of the model
    along every history -/
theorem phi_phase_history [DecidableEq α] (pi : α) (fmod : α → α → α) (hm : FmodSpec fmod)
    (hpi : 0 < pi) (steps : List (α × α)) (hsteps : ∀ s ∈ steps, 0 ≤ s.1 ∧ 0 ≤ s.2) :
    ∀ q ∈ trace_phase pi fmod steps (initial_gait_phase pi),
      phiPhaseRange (fun a b => decide (a ≤ b)) pi q = true ∧
      phiHalfCycle (fun a b => decide (a = b)) pi q = true := by
  intro q hq
  obtain ⟨⟨⟨l1, l2⟩, ⟨r1, r2⟩⟩, _, hpm⟩ := phase_half_cycle pi fmod hm hpi steps hsteps q hq
  constructor
  · simp [phiPhaseRange, l1, l2, r1, r2]
  · rcases hpm with h | h <;> simp [phiHalfCycle, h]

end gait

section foot
variable {α : Type} [Field α] [LinearOrder α] [IsStrictOrderedRing α]

/-- the cubic Bezier blend `3t² − 2t³` stays in `[0, 1]` on `[0, 1]` -/
theorem blend_bounds (t : α) (h0 : 0 ≤ t) (h1 : t ≤ 1) :
    0 ≤ t * t * t + 3 * (t * t * (1 - t)) ∧ t * t * t + 3 * (t * t * (1 - t)) ≤ 1 := by
  have h1' : 0 ≤ 1 - t := sub_nonneg.mpr h1
  have hs : 0 ≤ (1 - t) * (1 - t) * (1 + 2 * t) := by positivity
  exact ⟨by positivity, by linear_combination hs⟩

theorem bezier_between (a b : α) {t : α} (h0 : 0 ≤ t) (h1 : t ≤ 1) :
    (a ≤ b → a ≤ bezier a b t ∧ bezier a b t ≤ b) ∧
    (b ≤ a → b ≤ bezier a b t ∧ bezier a b t ≤ a) := by
  -- `bezier a b t = a + (b - a)·s` with `s = 3t² − 2t³ ∈ [0, 1]`
  obtain ⟨s0, s1⟩ := blend_bounds t h0 h1
  unfold bezier
  generalize t * t * t + 3 * (t * t * (1 - t)) = s at s0 s1 ⊢
  have key : ∀ d : α, 0 ≤ d → 0 ≤ d * s ∧ d * s ≤ d := fun d hd =>
    ⟨mul_nonneg hd s0, mul_le_of_le_one_right hd s1⟩
  refine ⟨fun h => ?_, fun h => ?_⟩
  · obtain ⟨m0, m1⟩ := key (b - a) (sub_nonneg.mpr h)
    constructor <;> linarith
  · obtain ⟨m0, m1⟩ := key (a - b) (sub_nonneg.mpr h)
    constructor <;> linarith

/-- For every phase in `[-pi, pi]` and swing height `≥ 0` the desired
    foot height lies in `[0, swing_height]`. -/
theorem foot_height_bounds (pi : α) (hpi : 0 < pi) (ph h : α) (hh : 0 ≤ h)
    (hlo : -pi ≤ ph) (hhi : ph ≤ pi) :
    0 ≤ desired_foot_height1 pi ph h ∧ desired_foot_height1 pi ph h ≤ h := by
  have h2pi : 0 < 2 * pi := mul_pos two_pos hpi
  have hx0 : 0 ≤ (ph + pi) / (2 * pi) := div_nonneg (neg_le_iff_add_nonneg.mp hlo) h2pi.le
  have hx1 : (ph + pi) / (2 * pi) ≤ 1 := (div_le_one h2pi).mpr (by linarith)
  simp only [desired_foot_height1]
  generalize (ph + pi) / (2 * pi) = x at hx0 hx1
  split_ifs with hc
  · exact (bezier_between 0 h (by linarith) (by linarith)).1 hh
  · exact (bezier_between h 0 (by linarith [not_le.mp hc]) (by linarith)).2 hh

theorem bezier_zero (a b : α) : bezier a b 0 = a := by simp [bezier]

theorem bezier_one (a b : α) : bezier a b 1 = b := by simp [bezier]

/-- the foot is on the ground at phase `-pi` … -/
theorem foot_height_at_minus_pi (pi : α) (h : α) :
    desired_foot_height1 pi (-pi) h = 0 := by
  simp [desired_foot_height1, bezier_zero]

/-- … reaches the swing height at phase `0` … -/
theorem foot_height_at_zero (pi : α) (hpi : 0 < pi) (h : α) :
    desired_foot_height1 pi 0 h = h := by
  have hx : pi / (2 * pi) = 2⁻¹ := by field_simp
  simp [desired_foot_height1, hx, bezier_one]

/-- … and is back on the ground at phase `+pi`. -/
theorem foot_height_at_pi (pi : α) (hpi : 0 < pi) (h : α) :
    desired_foot_height1 pi pi h = 0 := by
  have hx : (pi + pi) / (2 * pi) = 1 := by field_simp; ring
  norm_num [desired_foot_height1, hx, bezier_one]

theorem phi_foot_height (pi : α) (hpi : 0 < pi) (ph h : α) (hh : 0 ≤ h)
    (hlo : -pi ≤ ph) (hhi : ph ≤ pi) :
    phiFootHeight (fun a b => decide (a ≤ b)) h (desired_foot_height1 pi ph h) = true := by
  obtain ⟨a, b⟩ := foot_height_bounds pi hpi ph h hh hlo hhi
  simp [phiFootHeight, a, b]

end foot

section lists
variable {α : Type} [Zero α]

theorem length_take_freeDofs (xs : List α) (hx : freeDofs ≤ xs.length) :
    (xs.take freeDofs).length = freeDofs := by
  rw [List.length_take, Nat.min_eq_left hx]

theorem setFrom6_length (xs new : List α) (hx : freeDofs ≤ xs.length) :
    (setFrom6 xs new).length = freeDofs + new.length := by
  rw [setFrom6, List.length_append, length_take_freeDofs xs hx]

theorem setFrom6_lo (xs new : List α) (hx : freeDofs ≤ xs.length) (i : ℕ) (hi : i < freeDofs) :
    (setFrom6 xs new).getD i 0 = xs.getD i 0 := by
  rw [setFrom6, List.getD_append _ _ _ _ ((length_take_freeDofs xs hx).symm ▸ hi),
    List.getD_eq_getElem?_getD, List.getD_eq_getElem?_getD, List.getElem?_take_of_lt hi]

theorem setFrom6_hi (xs new : List α) (hx : freeDofs ≤ xs.length) (i : ℕ) (hi : freeDofs ≤ i) :
    (setFrom6 xs new).getD i 0 = new.getD (i - freeDofs) 0 := by
  have hl := length_take_freeDofs xs hx
  rw [setFrom6, List.getD_append_right _ _ _ _ (hl.symm ▸ hi), hl]

theorem getD_mapIdx {β : Type} (l : List β) (f : ℕ → β → β) (d : β) (j : ℕ) (hj : j < l.length) :
    (l.mapIdx f).getD j d = f j (l.getD j d) := by
  rw [List.getD_eq_getElem _ _ (by rwa [List.length_mapIdx]), List.getElem_mapIdx,
    List.getD_eq_getElem _ _ hj]

theorem getD_set {β : Type} (l : List β) (t : ℕ) (a d : β) (i : ℕ) (hi : i < l.length) :
    (l.set t a).getD i d = if i = t then a else l.getD i d := by
  rw [List.getD_eq_getElem _ _ (by rwa [List.length_set]), List.getElem_set,
    List.getD_eq_getElem _ _ hi]
  simp only [eq_comm]

theorem setFriction_length (pairs : List ℕ) (fr : α) (pf : List (List α)) :
    (setFriction pairs fr pf).length = pf.length :=
  List.length_mapIdx

theorem setFriction_row (pairs : List ℕ) (fr : α) (pf : List (List α)) (i : ℕ)
    (hi : i < pf.length) :
    (setFriction pairs fr pf).getD i [] =
      if pairs.contains i then (pf.getD i []).mapIdx (fun j x => if j < 2 then fr else x)
      else pf.getD i [] :=
  getD_mapIdx pf _ [] i hi

theorem setFriction_row_length (pairs : List ℕ) (fr : α) (pf : List (List α)) (i : ℕ)
    (hi : i < pf.length) :
    ((setFriction pairs fr pf).getD i []).length = (pf.getD i []).length := by
  rw [setFriction_row pairs fr pf i hi]
  split_ifs
  · exact List.length_mapIdx
  · rfl

theorem setFriction_entry (pairs : List ℕ) (fr : α) (pf : List (List α)) (i j : ℕ)
    (hi : i < pf.length) (hj : j < (pf.getD i []).length) :
    ((setFriction pairs fr pf).getD i []).getD j 0 =
      if i ∈ pairs ∧ j < 2 then fr else (pf.getD i []).getD j 0 := by
  rw [setFriction_row pairs fr pf i hi]
  by_cases hm : i ∈ pairs
  · rw [if_pos (List.contains_iff_mem.mpr hm), getD_mapIdx _ _ 0 j hj]
    simp only [hm, true_and]
  · rw [if_neg (mt List.contains_iff_mem.mp hm), if_neg (fun h => hm h.1)]

end lists

section fields
variable {α : Type} [Field α] [LinearOrder α] [IsStrictOrderedRing α]

theorem length_scaled {nominal scales : List α} (hs : scales.length = nominal.length) :
    (List.zipWith (· * ·) nominal scales).length = nominal.length := by
  rw [List.length_zipWith, hs, Nat.min_self]

theorem setFrom6_scaled_length {xs nominal scales : List α}
    (hlen : xs.length = freeDofs + nominal.length) (hs : scales.length = nominal.length) :
    (setFrom6 xs (List.zipWith (· * ·) nominal scales)).length = xs.length := by
  rw [setFrom6_length _ _ (hlen ▸ Nat.le_add_right _ _), length_scaled hs, hlen]

/-- the one fact behind friction loss, armature and body mass alike -/
theorem scaled_getD {r : α × α} {nominal scales : List α} (hs : scales.length = nominal.length)
    (hnn : ∀ x ∈ nominal, 0 ≤ x) (hr : ∀ s ∈ scales, r.1 ≤ s ∧ s ≤ r.2) (i : ℕ)
    (hi : i < nominal.length) :
    nominal.getD i 0 * r.1 ≤ (List.zipWith (· * ·) nominal scales).getD i 0 ∧
    (List.zipWith (· * ·) nominal scales).getD i 0 ≤ nominal.getD i 0 * r.2 := by
  have hi' : i < scales.length := hs ▸ hi
  have hz : i < (List.zipWith (· * ·) nominal scales).length := (length_scaled hs).symm ▸ hi
  rw [List.getD_eq_getElem _ _ hz, List.getElem_zipWith, List.getD_eq_getElem _ _ hi]
  have hn := hnn _ (List.getElem_mem hi)
  obtain ⟨a, b⟩ := hr _ (List.getElem_mem hi')
  exact ⟨mul_le_mul_of_nonneg_left a hn, mul_le_mul_of_nonneg_left b hn⟩

theorem setFrom6_scaled {r : α × α} {xs nominal scales : List α}
    (hlen : xs.length = freeDofs + nominal.length) (hs : scales.length = nominal.length)
    (hnn : ∀ x ∈ nominal, 0 ≤ x) (hr : ∀ s ∈ scales, r.1 ≤ s ∧ s ≤ r.2) (i : ℕ)
    (h6 : freeDofs ≤ i) (hi : i < xs.length) :
    nominal.getD (i - freeDofs) 0 * r.1
      ≤ (setFrom6 xs (List.zipWith (· * ·) nominal scales)).getD i 0 ∧
    (setFrom6 xs (List.zipWith (· * ·) nominal scales)).getD i 0
      ≤ nominal.getD (i - freeDofs) 0 * r.2 := by
  rw [setFrom6_hi _ _ (hlen ▸ Nat.le_add_right _ _) i h6]
  exact scaled_getD hs hnn hr _ (by omega)

/-! The model's field functions pass their checkers (with exact comparisons, as in
    `phi_randomize_model`). -/

theorem phiFriction_setFriction {r : α × α} (pairs : List ℕ) {fr : α} (pf : List (List α))
    (hfr : r.1 ≤ fr ∧ fr ≤ r.2) :
    phiFriction (fun a b => decide (a = b)) (fun a b => decide (a ≤ b)) r pairs pf
      (setFriction pairs fr pf) = true := by
  simp only [phiFriction, inRange, Bool.and_eq_true, beq_iff_eq, List.all_eq_true,
    List.mem_range, apply_ite (· = true), List.contains_iff_mem, decide_eq_true_eq]
  refine ⟨setFriction_length pairs fr pf, fun i hi =>
    ⟨setFriction_row_length pairs fr pf i hi, fun j hj => ?_⟩⟩
  rw [setFriction_entry pairs fr pf i j hi hj]
  split_ifs
  · exact hfr
  · rfl

theorem phiDof_setFrom6 {r : α × α} {xs nominal scales : List α}
    (hlen : xs.length = freeDofs + nominal.length) (hs : scales.length = nominal.length)
    (hnn : ∀ x ∈ nominal, 0 ≤ x) (hr : ∀ s ∈ scales, r.1 ≤ s ∧ s ≤ r.2) :
    phiDof (fun a b => decide (a = b)) (fun a b => decide (a ≤ b)) r nominal xs
      (setFrom6 xs (List.zipWith (· * ·) nominal scales)) = true := by
  simp only [phiDof, inScaled, Bool.and_eq_true, beq_iff_eq, List.all_eq_true, List.mem_range,
    apply_ite (· = true), decide_eq_true_eq]
  refine ⟨⟨setFrom6_scaled_length hlen hs, hlen⟩, fun i hi => ?_⟩
  split_ifs with h6
  · exact setFrom6_lo _ _ (hlen ▸ Nat.le_add_right _ _) i h6
  · exact setFrom6_scaled hlen hs hnn hr i (not_lt.mp h6) hi

theorem phiMass_set {r off : α × α} {nominal scales : List α} (torso : ℕ) {o : α}
    (hs : scales.length = nominal.length) (hnn : ∀ x ∈ nominal, 0 ≤ x)
    (hr : ∀ s ∈ scales, r.1 ≤ s ∧ s ≤ r.2) (ho : off.1 ≤ o ∧ o ≤ off.2) :
    phiMass (fun a b => decide (a ≤ b)) r off torso nominal
      ((List.zipWith (· * ·) nominal scales).set torso
        ((List.zipWith (· * ·) nominal scales).getD torso 0 + o)) = true := by
  simp only [phiMass, inScaled, Bool.and_eq_true, beq_iff_eq, List.all_eq_true, List.mem_range,
    apply_ite (· = true), decide_eq_true_eq]
  refine ⟨List.length_set.trans (length_scaled hs), fun i hi => ?_⟩
  obtain ⟨a, b⟩ := scaled_getD hs hnn hr i hi
  rw [getD_set _ _ _ _ i ((length_scaled hs).symm ▸ hi)]
  split_ifs with ht
  · subst ht
    exact ⟨add_le_add a ho.1, add_le_add b ho.2⟩
  · exact ⟨a, b⟩

end fields

section randomize
variable {α : Type} [Field α] [LinearOrder α] [IsStrictOrderedRing α] {Rest : Type}

/-- the draws lie in their configured ranges (`jr.uniform(minval, maxval) ∈ [minval, maxval)`;
    only the closed range is needed) -/
structure DrawsInRange (rr : RandRanges α) (d : Draws α) : Prop where
  friction : rr.friction.1 ≤ d.friction ∧ d.friction ≤ rr.friction.2
  floss : ∀ s ∈ d.floss_scales, rr.floss.1 ≤ s ∧ s ≤ rr.floss.2
  armature : ∀ s ∈ d.armature_scales, rr.armature.1 ≤ s ∧ s ≤ rr.armature.2
  mass : ∀ s ∈ d.mass_scales, rr.mass.1 ≤ s ∧ s ≤ rr.mass.2
  torso : rr.torso_offset.1 ≤ d.torso_offset ∧ d.torso_offset ≤ rr.torso_offset.2

/-- shapes as JAX checks them (`shape=(num_actuated,)`, `shape=(model.nbody,)`, `x.at[6:].set`)
    and non-negative nominal values -/
structure WellFormed (base : Model α Rest) (nom : Nominal α) (d : Draws α) : Prop where
  floss_len : base.dof_frictionloss.length = freeDofs + nom.friction_loss.length
  arm_len : base.dof_armature.length = freeDofs + nom.armature.length
  floss_draws : d.floss_scales.length = nom.friction_loss.length
  arm_draws : d.armature_scales.length = nom.armature.length
  mass_draws : d.mass_scales.length = nom.body_mass.length
  floss_nonneg : ∀ x ∈ nom.friction_loss, 0 ≤ x
  arm_nonneg : ∀ x ∈ nom.armature, 0 ≤ x
  mass_nonneg : ∀ x ∈ nom.body_mass, 0 ≤ x

/-- the fields of the randomised model, spelled out -/
theorem randomize_model_fields (base : Model α Rest) (nom : Nominal α) (d : Draws α) :
    (randomize_model base nom d).pair_friction
      = setFriction nom.foot_pair_ids d.friction base.pair_friction ∧
    (randomize_model base nom d).dof_frictionloss
      = setFrom6 base.dof_frictionloss (List.zipWith (· * ·) nom.friction_loss d.floss_scales) ∧
    (randomize_model base nom d).dof_armature
      = setFrom6 base.dof_armature (List.zipWith (· * ·) nom.armature d.armature_scales) ∧
    (randomize_model base nom d).body_mass
      = (List.zipWith (· * ·) nom.body_mass d.mass_scales).set nom.torso_body_id
          ((List.zipWith (· * ·) nom.body_mass d.mass_scales).getD nom.torso_body_id 0
            + d.torso_offset) ∧
    (randomize_model base nom d).rest = base.rest :=
  ⟨rfl, rfl, rfl, rfl, rfl⟩

/-- For draws within their ranges and non-negative nominal values:
    the friction of the foot/floor pairs lies in `[lo, hi]`; friction loss and armature of every
    actuated DOF lie between `nominal·lo` and `nominal·hi`; every body mass lies between
    `nominal·lo` and `nominal·hi`, the torso's between `nominal·lo + off_lo` and
    `nominal·hi + off_hi`. -/
theorem randomized_in_range (rr : RandRanges α) (base : Model α Rest) (nom : Nominal α)
    (d : Draws α) (hd : DrawsInRange rr d) (hw : WellFormed base nom d) :
    let out := randomize_model base nom d
    (∀ i j, i < base.pair_friction.length → j < (base.pair_friction.getD i []).length →
        i ∈ nom.foot_pair_ids → j < 2 →
        rr.friction.1 ≤ (out.pair_friction.getD i []).getD j 0 ∧
        (out.pair_friction.getD i []).getD j 0 ≤ rr.friction.2) ∧
    (∀ i, freeDofs ≤ i → i < base.dof_frictionloss.length →
        nom.friction_loss.getD (i - freeDofs) 0 * rr.floss.1 ≤ out.dof_frictionloss.getD i 0 ∧
        out.dof_frictionloss.getD i 0 ≤ nom.friction_loss.getD (i - freeDofs) 0 * rr.floss.2) ∧
    (∀ i, freeDofs ≤ i → i < base.dof_armature.length →
        nom.armature.getD (i - freeDofs) 0 * rr.armature.1 ≤ out.dof_armature.getD i 0 ∧
        out.dof_armature.getD i 0 ≤ nom.armature.getD (i - freeDofs) 0 * rr.armature.2) ∧
    (∀ i, i < nom.body_mass.length → i ≠ nom.torso_body_id →
        nom.body_mass.getD i 0 * rr.mass.1 ≤ out.body_mass.getD i 0 ∧
        out.body_mass.getD i 0 ≤ nom.body_mass.getD i 0 * rr.mass.2) ∧
    (nom.torso_body_id < nom.body_mass.length →
        nom.body_mass.getD nom.torso_body_id 0 * rr.mass.1 + rr.torso_offset.1
          ≤ out.body_mass.getD nom.torso_body_id 0 ∧
        out.body_mass.getD nom.torso_body_id 0
          ≤ nom.body_mass.getD nom.torso_body_id 0 * rr.mass.2 + rr.torso_offset.2) := by
  obtain ⟨e1, e2, e3, e4, _⟩ := randomize_model_fields base nom d
  have hm := scaled_getD hw.mass_draws hw.mass_nonneg hd.mass
  have hbl := length_scaled hw.mass_draws
  simp only [e1, e2, e3, e4]
  refine ⟨fun i j hi hj hmem hj2 => ?_, fun i h6 hi => ?_, fun i h6 hi => ?_,
    fun i hi hne => ?_, fun ht => ?_⟩
  · rw [setFriction_entry _ _ _ i j hi hj, if_pos ⟨hmem, hj2⟩]
    exact hd.friction
  · exact setFrom6_scaled hw.floss_len hw.floss_draws hw.floss_nonneg hd.floss i h6 hi
  · exact setFrom6_scaled hw.arm_len hw.arm_draws hw.arm_nonneg hd.armature i h6 hi
  · rw [getD_set _ _ _ _ i (hbl ▸ hi), if_neg hne]
    exact hm i hi
  · rw [getD_set _ _ _ _ _ (hbl ▸ ht), if_pos rfl]
    exact ⟨add_le_add (hm _ ht).1 hd.torso.1, add_le_add (hm _ ht).2 hd.torso.2⟩

/-- Everything that is not named stays nominal: the rest of the model,
    the friction of every other contact pair and every other friction column, the free-joint
    DOFs of friction loss and armature; shapes are preserved. -/
theorem randomize_frame (base : Model α Rest) (nom : Nominal α) (d : Draws α)
    (hw : WellFormed base nom d) :
    let out := randomize_model base nom d
    out.rest = base.rest ∧
    out.pair_friction.length = base.pair_friction.length ∧
    (∀ i j, i < base.pair_friction.length → j < (base.pair_friction.getD i []).length →
        (out.pair_friction.getD i []).length = (base.pair_friction.getD i []).length ∧
        (¬ (i ∈ nom.foot_pair_ids ∧ j < 2) →
          (out.pair_friction.getD i []).getD j 0 = (base.pair_friction.getD i []).getD j 0)) ∧
    out.dof_frictionloss.length = base.dof_frictionloss.length ∧
    out.dof_armature.length = base.dof_armature.length ∧
    out.body_mass.length = nom.body_mass.length ∧
    (∀ i, i < freeDofs →
        out.dof_frictionloss.getD i 0 = base.dof_frictionloss.getD i 0 ∧
        out.dof_armature.getD i 0 = base.dof_armature.getD i 0) := by
  refine ⟨rfl, setFriction_length _ _ _, fun i j hi hj => ⟨?_, fun hn => ?_⟩, ?_, ?_, ?_,
    fun i hi => ⟨?_, ?_⟩⟩
  · exact setFriction_row_length _ _ _ i hi
  · exact (setFriction_entry _ _ _ i j hi hj).trans (if_neg hn)
  · exact setFrom6_scaled_length hw.floss_len hw.floss_draws
  · exact setFrom6_scaled_length hw.arm_len hw.arm_draws
  · exact List.length_set.trans (length_scaled hw.mass_draws)
  · exact setFrom6_lo _ _ (hw.floss_len ▸ Nat.le_add_right _ _) i hi
  · exact setFrom6_lo _ _ (hw.arm_len ▸ Nat.le_add_right _ _) i hi

/-- **Φ is true of the model**: the executable checker that the driver evaluates on the
    implementation's randomised model returns `true` on the model's, with exact comparisons. -/
theorem phi_randomize_model [DecidableEq Rest] (rr : RandRanges α) (base : Model α Rest)
    (nom : Nominal α) (d : Draws α) (hd : DrawsInRange rr d) (hw : WellFormed base nom d) :
    phiRandomize (fun a b => decide (a = b)) (fun a b => decide (a ≤ b))
      (fun a b => decide (a = b)) rr nom base (randomize_model base nom d) = true := by
  simp only [phiRandomize, phiRandomizeClauses, List.all_cons, List.all_nil, Bool.and_true,
    Bool.and_eq_true]
  exact ⟨phiFriction_setFriction _ _ hd.friction,
    phiDof_setFrom6 hw.floss_len hw.floss_draws hw.floss_nonneg hd.floss,
    phiDof_setFrom6 hw.arm_len hw.arm_draws hw.arm_nonneg hd.armature,
    phiMass_set _ hw.mass_draws hw.mass_nonneg hd.mass hd.torso,
    decide_eq_true rfl⟩

end randomize

section initial
variable {α : Type} [Field α] [LinearOrder α] [IsStrictOrderedRing α] {Q X Rest : Type}

/-- the command / frequency draws lie in their configured ranges -/
structure CmdInRange (r : CmdRanges α) (c : CmdDraws α) : Prop where
  vx : r.vx.1 ≤ c.vx ∧ c.vx ≤ r.vx.2
  vy : r.vy.1 ≤ c.vy ∧ c.vy ≤ r.vy.2
  yaw : r.yaw.1 ≤ c.yaw ∧ c.yaw ≤ r.yaw.2
  freq : r.freq.1 ≤ c.freq ∧ c.freq ≤ r.freq.2

theorem sample_command_locomotion (c : CmdDraws α) :
    sample_command Task.locomotion c = if c.zero then [0, 0, 0] else [c.vx, c.vy, c.yaw] :=
  rfl

/-- The locomotion command is the zero command (drawn with
    `zero_command_probability`) or has every component within its range; whenever the ranges
    contain 0 (the defaults do) every component is within its range in both cases. -/
theorem command_in_range (r : CmdRanges α) (c : CmdDraws α) (hc : CmdInRange r c) :
    (sample_command Task.locomotion c = [0, 0, 0] ∨
      ∃ vx vy yaw, sample_command Task.locomotion c = [vx, vy, yaw] ∧
        (r.vx.1 ≤ vx ∧ vx ≤ r.vx.2) ∧ (r.vy.1 ≤ vy ∧ vy ≤ r.vy.2) ∧
        (r.yaw.1 ≤ yaw ∧ yaw ≤ r.yaw.2)) ∧
    ((r.vx.1 ≤ 0 ∧ 0 ≤ r.vx.2) → (r.vy.1 ≤ 0 ∧ 0 ≤ r.vy.2) → (r.yaw.1 ≤ 0 ∧ 0 ≤ r.yaw.2) →
      ∃ vx vy yaw, sample_command Task.locomotion c = [vx, vy, yaw] ∧
        (r.vx.1 ≤ vx ∧ vx ≤ r.vx.2) ∧ (r.vy.1 ≤ vy ∧ vy ≤ r.vy.2) ∧
        (r.yaw.1 ≤ yaw ∧ yaw ≤ r.yaw.2)) := by
  rw [sample_command_locomotion]
  cases c.zero
  · -- both conjuncts have the witness `(c.vx, c.vy, c.yaw)`
    refine ⟨Or.inr ?h, fun _ _ _ => ?h⟩
    exact ⟨c.vx, c.vy, c.yaw, rfl, hc.vx, hc.vy, hc.yaw⟩
  · exact ⟨Or.inl rfl, fun h1 h2 h3 => ⟨0, 0, 0, rfl, h1, h2, h3⟩⟩

/-- The locomotion gait frequency lies within its range. -/
theorem frequency_in_range (r : CmdRanges α) (c : CmdDraws α) (hc : CmdInRange r c) :
    r.freq.1 ≤ sample_frequency Task.locomotion c ∧
    sample_frequency Task.locomotion c ≤ r.freq.2 := hc.freq

/-- The standing and stand-up tasks always start with the zero
    command (and a zero gait frequency), whatever the draws. -/
theorem standing_command_zero (task : Task) (ht : task ≠ Task.locomotion) (c : CmdDraws α) :
    sample_command task c = [0, 0, 0] ∧ sample_frequency task c = 0 :=
  match task, ht with
  | .standing, _ | .standup, _ => ⟨rfl, rfl⟩

/-- the zero command passes for every task, whatever the ranges -/
theorem phiCommand_zeros (le : α → α → Bool) (task : Task) (r : CmdRanges α) :
    phiCommand (fun a b => decide (a = b)) le task r [0, 0, 0] = true := by
  cases task <;> simp [phiCommand, isZero]

/-- Φ (command, frequency) is true of the model -/
theorem phi_command_frequency (task : Task) (r : CmdRanges α) (c : CmdDraws α)
    (hc : CmdInRange r c) :
    phiCommand (fun a b => decide (a = b)) (fun a b => decide (a ≤ b)) task r
      (sample_command task c) = true ∧
    phiFrequency (fun a b => decide (a = b)) (fun a b => decide (a ≤ b)) task r
      (sample_frequency task c) = true := by
  cases task
  · refine ⟨?_, by simp [phiFrequency, sample_frequency, inRange, hc.freq]⟩
    rw [sample_command_locomotion]
    cases c.zero
    · simp [phiCommand, inRange, hc.vx, hc.vy, hc.yaw]
    · exact phiCommand_zeros _ _ _
  · exact ⟨phiCommand_zeros _ _ _, decide_eq_true rfl⟩
  · exact ⟨phiCommand_zeros _ _ _, decide_eq_true rfl⟩

/-- The derived positions of the initial state are the forward
    kinematics of *its own* joint configuration under *its own* (randomised) model — i.e. the
    snap to the ground is followed by a recomputation — and the joint configuration is the
    perturbed one shifted vertically by `clearance − lowest point`. -/
theorem initial_kin_coherent (task : Task) (pi : α) (FK : Model α Rest → Q → X) (lowest : X → α)
    (shiftZ : Q → α → Q) (clearance : α) (base : Model α Rest) (nom : Nominal α)
    (d : Draws α) (q0 : Q) (c : CmdDraws α) :
    let s := initial task pi FK lowest shiftZ clearance base nom d q0 c
    s.sim.xpos = FK s.model s.sim.qpos ∧
    s.model = randomize_model base nom d ∧
    s.sim.qpos = shiftZ q0 ((0 - lowest (FK s.model q0)) + clearance) ∧
    s.gait_phase = (0, pi) ∧ s.step_count = 0 :=
  ⟨rfl, rfl, rfl, rfl, rfl⟩

/-- if the lowest point moves with the vertical shift (which is what a rigid vertical
    translation does), the snapped configuration's lowest point sits at `clearance` -/
theorem initial_clearance (task : Task) (pi : α) (FK : Model α Rest → Q → X) (lowest : X → α)
    (shiftZ : Q → α → Q) (clearance : α) (base : Model α Rest) (nom : Nominal α)
    (d : Draws α) (q0 : Q) (c : CmdDraws α)
    (hshift : ∀ m q z, lowest (FK m (shiftZ q z)) = lowest (FK m q) + z) :
    lowest (initial task pi FK lowest shiftZ clearance base nom d q0 c).sim.xpos = clearance := by
  obtain ⟨hx, _, hq, _⟩ := initial_kin_coherent task pi FK lowest shiftZ clearance base nom d q0 c
  rw [hx, hq, hshift]
  ring

/-- **the start of every episode of every task**: randomised model within range and framed,
    command / frequency clauses, coherent kinematics, initial phases `[0, pi]`. -/
theorem initial_spec [DecidableEq Rest] (task : Task) (pi : α) (FK : Model α Rest → Q → X)
    (lowest : X → α) (shiftZ : Q → α → Q) (clearance : α) (rr : RandRanges α) (cr : CmdRanges α)
    (base : Model α Rest) (nom : Nominal α) (d : Draws α) (q0 : Q) (c : CmdDraws α)
    (hd : DrawsInRange rr d) (hw : WellFormed base nom d) (hc : CmdInRange cr c) :
    let s := initial task pi FK lowest shiftZ clearance base nom d q0 c
    phiRandomize (fun a b => decide (a = b)) (fun a b => decide (a ≤ b))
      (fun a b => decide (a = b)) rr nom base s.model = true ∧
    phiCommand (fun a b => decide (a = b)) (fun a b => decide (a ≤ b)) task cr s.command = true ∧
    phiFrequency (fun a b => decide (a = b)) (fun a b => decide (a ≤ b)) task cr
      s.gait_frequency = true ∧
    s.sim.xpos = FK s.model s.sim.qpos ∧
    s.gait_phase = initial_gait_phase pi :=
  ⟨phi_randomize_model rr base nom d hd hw, (phi_command_frequency task cr c hc).1,
   (phi_command_frequency task cr c hc).2, rfl, rfl⟩

theorem episode_fields (pi : α) (fmod : α → α → α) (dt : α) (sims : List (Sim Q X))
    (s : State α Q X Rest) :
    (episode pi fmod dt sims s).gait_frequency = s.gait_frequency ∧
    (episode pi fmod dt sims s).command = s.command ∧
    (episode pi fmod dt sims s).model = s.model ∧
    (episode pi fmod dt sims s).step_count = s.step_count + sims.length ∧
    (episode pi fmod dt sims s).gait_phase =
      run_phase pi fmod (List.replicate sims.length (s.gait_frequency, dt)) s.gait_phase := by
  induction sims generalizing s with
  | nil => exact ⟨rfl, rfl, rfl, rfl, rfl⟩
  | cons x xs ih =>
      obtain ⟨h1, h2, h3, h4, h5⟩ := ih (transition pi fmod dt s x)
      -- `episode`, `transition`, `List.replicate (n + 1)` and `run_phase` unfold by `rfl`, so the
      -- induction hypothesis at `transition … s x` is the goal up to the step count
      exact ⟨h1, h2, h3, h4.trans (Nat.add_right_comm _ _ _), h5⟩

/-- **the gait clock of every episode**: for every task, every draw, every control period
    `dt ≥ 0` and every number of control steps (whatever the physics does), the per-episode
    frequency, command and randomised model are carried unchanged, the step counter counts the
    steps, both phases lie in `[-pi, pi]` and are exactly half a cycle (`±pi`) apart. -/
theorem episode_phase_coherent (task : Task) (pi : α) (fmod : α → α → α) (hm : FmodSpec fmod)
    (hpi : 0 < pi) (dt : α) (hdt : 0 ≤ dt) (FK : Model α Rest → Q → X) (lowest : X → α)
    (shiftZ : Q → α → Q) (clearance : α) (cr : CmdRanges α) (hcr : 0 ≤ cr.freq.1)
    (base : Model α Rest) (nom : Nominal α) (d : Draws α) (q0 : Q) (c : CmdDraws α)
    (hc : CmdInRange cr c) (sims : List (Sim Q X)) :
    let s0 := initial task pi FK lowest shiftZ clearance base nom d q0 c
    let s := episode pi fmod dt sims s0
    s.gait_frequency = s0.gait_frequency ∧ s.command = s0.command ∧ s.model = s0.model ∧
    s.step_count = sims.length ∧
    InRange pi s.gait_phase ∧ HalfCycle pi s.gait_phase ∧
    (s.gait_phase.2 - s.gait_phase.1 = pi ∨ s.gait_phase.2 - s.gait_phase.1 = -pi) := by
  intro s0 s
  obtain ⟨h1, h2, h3, h4, h5⟩ := episode_fields pi fmod dt sims s0
  have hf : 0 ≤ sample_frequency task c := by
    cases task
    · exact hcr.trans hc.freq.1
    · exact le_rfl
    · exact le_rfl
  refine ⟨h1, h2, h3, h4.trans (Nat.zero_add _), ?_⟩
  rw [show s.gait_phase = _ from h5]
  exact phase_half_cycle pi fmod hm hpi _
    (fun x hx => List.eq_of_mem_replicate hx ▸ ⟨hf, hdt⟩) _ (run_mem_trace pi fmod _ _)

end initial

/-! ## the `fmod` contract holds in every floor ring, in particular in ℝ -/

section floor
variable {α : Type} [Field α] [LinearOrder α] [IsStrictOrderedRing α] [FloorRing α]

/-- C's `fmod` for a non-negative dividend and a positive divisor: `a − p·⌊a/p⌋` -/
def floorFmod (a p : α) : α := a - p * (⌊a / p⌋ : α)

theorem floorFmod_spec : FmodSpec (floorFmod : α → α → α) := by
  refine ⟨fun a p ha hp => ?_⟩
  rw [floorFmod, mul_comm]
  -- the witness is `⌊a/p⌋₊`, equal to `⌊a/p⌋` since `a/p ≥ 0`
  exact ⟨Int.sub_floor_div_mul_nonneg a hp, Int.sub_floor_div_mul_lt a hp, ⌊a / p⌋₊, by
    rw [natCast_floor_eq_intCast_floor (div_nonneg ha hp.le), sub_add_cancel]⟩

/-- the gait-clock theorems, specialised to ℝ with `fmod a p = a − p·⌊a/p⌋` (any `pi > 0`,
    in particular `Real.pi`): along every history from `[0, pi]` the phases stay in `[-pi, pi]`
    and `±pi` apart. -/
theorem phase_half_cycle_real (pi : ℝ) (hpi : 0 < pi) (steps : List (ℝ × ℝ))
    (hsteps : ∀ s ∈ steps, 0 ≤ s.1 ∧ 0 ≤ s.2) :
    ∀ q ∈ trace_phase pi floorFmod steps (initial_gait_phase pi),
      InRange pi q ∧ HalfCycle pi q ∧ (q.2 - q.1 = pi ∨ q.2 - q.1 = -pi) :=
  phase_half_cycle pi floorFmod floorFmod_spec hpi steps hsteps

end floor

/-! ## non-vacuity: concrete instances over ℚ (with `pi := 3`, any positive number will do) -/

section nonvacuity

example : FmodSpec (floorFmod : ℚ → ℚ → ℚ) := floorFmod_spec

example : desired_foot_height1 (3 : ℚ) (-3 / 2) 1 = 1 / 2 := by
  decide +kernel

example : desired_foot_height1 (3 : ℚ) (3 / 2) 1 = 1 / 2 := by
  decide +kernel

example : advance_gait_phase (3 : ℚ) floorFmod (0, 3) (1 / 4) 1 = (3 / 2, -3 / 2) := by
  decide +kernel

def base0 : Model ℚ String :=
  { pair_friction := [[1, 1, 5], [1, 1, 5], [1, 1, 5]],
    dof_frictionloss := [0, 0, 0, 0, 0, 0, 1 / 10, 1 / 10],
    dof_armature := [0, 0, 0, 0, 0, 0, 1 / 100, 2 / 100],
    body_mass := [0, 4, 8], rest := "rest" }
def nom0 : Nominal ℚ :=
  { friction_loss := [1 / 10, 1 / 10], armature := [1 / 100, 2 / 100], body_mass := [0, 4, 8],
    torso_body_id := 2, foot_pair_ids := [1, 2] }
def rr0 : RandRanges ℚ :=
  { friction := (2 / 5, 1), floss := (1 / 2, 2), armature := (1, 21 / 20), mass := (9 / 10, 11 / 10),
    torso_offset := (-1, 1) }
def d0 : Draws ℚ :=
  { friction := 1 / 2, floss_scales := [1 / 2, 2], armature_scales := [1, 21 / 20],
    mass_scales := [1, 9 / 10, 11 / 10], torso_offset := -1 }

example : (randomize_model base0 nom0 d0).body_mass = [0, 18 / 5, 39 / 5] := by
  decide +kernel

example : (randomize_model base0 nom0 d0).pair_friction = [[1, 1, 5], [1 / 2, 1 / 2, 5], [1 / 2, 1 / 2, 5]] := by
  decide +kernel

example : DrawsInRange rr0 d0 := by
  constructor <;> decide +kernel

example : WellFormed base0 nom0 d0 := by
  constructor <;> decide +kernel

example : CmdInRange (⟨(-1, 1), (-1 / 2, 1 / 2), (-1, 1), (5 / 4, 3 / 2)⟩ : CmdRanges ℚ)
    ⟨1 / 2, -1 / 4, 1, false, 11 / 8⟩ := by
  constructor <;> decide +kernel

/-- the hypotheses of the history theorem are satisfiable and its conclusion is not trivial:
    three steps at `f·dt = 1/4` take `[0, 3]` to `[-3/2, 3/2]` through a wrap of each phase -/
example : run_phase (3 : ℚ) floorFmod [(1 / 4, 1), (1 / 4, 1), (1 / 4, 1)] (initial_gait_phase 3)
    = (-3 / 2, 3 / 2) := by
  decide +kernel

end nonvacuity

end Lerax.C20
