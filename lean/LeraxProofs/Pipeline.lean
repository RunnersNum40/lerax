/-
  Cross-property compositions: theorems that chain the models of several properties, so that the
  end-to-end statements users rely on are themselves machine-checked.  Here C04 ∘ C08 (the PPO loss
  on a freshly collected rollout with the unchanged policy is on-policy) and C04 ∘ C03 (advantages
  of a collected rollout up to a done row do not depend on anything recorded after it).
-/
import LeraxProofs.C03
import LeraxProofs.C04
import LeraxProofs.C08

namespace Lerax.Pipeline
open Lerax.Env Lerax.OnPolicy Lerax.Loss

section ppo
set_option linter.unusedSectionVars false
variable {S A O K PS M α : Type} [Keys K] [Field α] [LinearOrder α] [IsStrictOrderedRing α]

/-- every row of a collected rollout re-evaluates to its own stored value and log-probability -/
theorem rollout_rows_reevaluate (E : Env S A O α K) (mask : S → K → Option M) (clip : A → A)
    (P : Policy PS O A M α K) (hP : Lerax.C04.Coherent P) (γ : α) (st : StepState S PS) (keys : List K) :
    ∀ row ∈ (collectRollout E mask clip P γ st keys).2,
      P.evaluate row.policyState row.observation row.action row.mask = (row.value, row.logProb) := by
  induction keys generalizing st with
  | nil => exact fun _ h => absurd h List.not_mem_nil
  | cons k ks ih =>
      rw [Lerax.C04.collectRollout_cons]
      exact List.forall_mem_cons.mpr ⟨Lerax.C04.ratio_one E mask clip P γ hP st k, ih _⟩

/-- the PPO loss inputs built from a collected rollout and the (unchanged) policy's re-evaluation:
    `PpoIter.lossSamples` with the entropies, returns and advantages left arbitrary (they do not
    enter the statement) -/
def samplesOf (P : Policy PS O A M α K) (rows : List (Row PS O A M α)) (ent ret adv : Nat → α) :
    List (Sample α) :=
  rows.mapIdx (fun i row =>
    let ev := P.evaluate row.policyState row.observation row.action row.mask
    { logpNew := ev.2, vNew := ev.1, entropy := ent i, logpOld := row.logProb, vOld := row.value,
      ret := ret i, adv := adv i })

/-- **C04 ∘ C08.**  On data collected by the current policy every ratio is 1, the approximate KL
    is 0 and the PPO policy loss is `−mean(Â)` — for every environment, coherent policy, rollout
    length, key sequence, clip coefficient ε ≥ 0 and normalisation setting. -/
theorem first_ppo_update_is_on_policy (E : Env S A O α K) (mask : S → K → Option M) (clip : A → A)
    (P : Policy PS O A M α K) (hP : Lerax.C04.Coherent P) (γ : α) (st : StepState S PS) (keys : List K)
    (hne : keys ≠ []) (exp sqrt : α → α) (hexp : exp 0 = 1) (cfg : Cfg α) (hε : 0 ≤ cfg.clipCoef)
    (ent ret adv : Nat → α) :
    let b := samplesOf P (collectRollout E mask clip P γ st keys).2 ent ret adv
    (ppoLoss exp sqrt cfg b).approxKl = 0 ∧
    (ppoLoss exp sqrt cfg b).policyLoss = - mean (advantages sqrt cfg b) := by
  intro b
  have hb : b ≠ [] := by
    apply List.ne_nil_of_length_pos
    simp only [b, samplesOf, List.length_mapIdx, Lerax.C04.rollout_length]
    exact List.length_pos_iff.mpr hne
  have hsame : ∀ s ∈ b, s.logpNew = s.logpOld := by
    intro s hs
    simp only [b, samplesOf, List.mem_mapIdx] at hs
    obtain ⟨i, hi, rfl⟩ := hs
    exact congrArg Prod.snd (rollout_rows_reevaluate E mask clip P hP γ st keys _ (List.getElem_mem hi))
  exact (Lerax.C08.on_policy_ratio_one exp sqrt hexp cfg hε b hb hsame).2

end ppo

section gae
open Lerax.Gae
variable {S A O K PS M α : Type} [Keys K] [CommRing α]

/-- GAE of the recorded rewards / values / done flags of a collected rollout -/
def gaeOfRows (γ lam : α) (rows : List (Row PS O A M α)) (last : α) : Out α :=
  gae γ lam (rows.map (·.reward)) (rows.map (·.value)) (rows.map (·.done)) last

/-- the estimates of a collected rollout have one entry per row -/
theorem gaeOfRows_lengths (γ lam : α) (rows : List (Row PS O A M α)) (last : α) :
    (gaeOfRows γ lam rows last).advantages.length = rows.length ∧
    (gaeOfRows γ lam rows last).returns.length = rows.length := by
  have h := Lerax.C03.gae_lengths γ lam (rows.map (·.reward)) (rows.map (·.value)) (rows.map (·.done))
    last (by simp) (by simp)
  rwa [List.length_map] at h

/-- **C04 ∘ C03.**  If row `t` of a collected rollout is a done row, the advantages and returns of
    rows `0..t` are the same for any continuation of the rollout (whatever the environment and the
    policy did after the reset, and whatever the bootstrap value is). -/
theorem collected_advantages_cut_at_done (γ lam : α) (rows rows' : List (Row PS O A M α)) (last last' : α)
    (t : Nat) (ht : t < rows.length) (ht' : t < rows'.length)
    (hagree : rows.take (t + 1) = rows'.take (t + 1)) (hdone : (rows.map (·.done)).getD t false = true) :
    (gaeOfRows γ lam rows last).advantages.take (t + 1) = (gaeOfRows γ lam rows' last').advantages.take (t + 1) ∧
    (gaeOfRows γ lam rows last).returns.take (t + 1) = (gaeOfRows γ lam rows' last').returns.take (t + 1) := by
  have h : ∀ {β : Type} (f : Row PS O A M α → β), (rows.map f).take (t + 1) = (rows'.map f).take (t + 1) :=
    fun f => by rw [← List.map_take, ← List.map_take, hagree]
  -- side goals: the three columns of a row list have its length (`List.length_map`)
  exact Lerax.C03.gae_cut γ lam _ _ _ _ _ _ last last' (by simp) (by simp) (by simp) (by simp) t
    (by simpa using ht) (by simpa using ht') (h _) (h _) (h _) hdone

end gae
end Lerax.Pipeline
