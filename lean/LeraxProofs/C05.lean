/-
  C05 — Off-policy collection stores exactly the transitions that happened.
-/
import LeraxModel.OffPolicy
import LeraxProofs.C06

namespace Lerax.C05
open Lerax.Env Lerax.Replay Lerax.OffPolicy

variable {S A O K PS α : Type} [Keys K]
variable (E : Env S A O α K) (clip : A → A) (P : Policy PS O A K)

/-- **Every stored transition is what happened**: the observation acted on, the action chosen,
    the reward and the *pre-reset* successor observation the environment produced for the
    executed (clipped) action, done = terminal ∨ truncated, timeout raised exactly when the
    episode was truncated without terminating, and the policy states before/after. -/
theorem stored_transition_faithful (env : S) (ps : PS) (key : K) :
    let row := (stepRow E clip P env ps key).2.2
    let obs := E.observation env (sub key 2)
    let a := (P.act ps obs (sub key 0)).2
    let next := E.transition env (clip a) (sub key 1)
    row.observation = obs ∧ row.action = a ∧
    row.reward = E.reward env (clip a) next (sub key 3) ∧
    row.nextObservation = E.observation next (sub key 5) ∧
    row.done = (E.terminal next (sub key 4) || E.truncate next) ∧
    (row.timeout = true ↔ (E.truncate next = true ∧ E.terminal next (sub key 4) = false)) ∧
    row.policyState = ps ∧ row.nextPolicyState = (P.act ps obs (sub key 0)).1 := by
  intro row obs a next
  refine ⟨rfl, rfl, rfl, rfl, rfl, ?_, rfl, rfl⟩
  show (E.truncate next && !E.terminal next (sub key 4)) = true ↔ _
  rw [Bool.and_eq_true, Bool.not_eq_true']

/-- **The environment and policy state restart after a done step**, otherwise they continue. -/
theorem post_done_fresh (env : S) (ps : PS) (key : K) :
    let out := stepRow E clip P env ps key
    (out.2.2.done = true → out.1 = E.initial (sub key 6) ∧ out.2.1 = P.reset (sub key 7)) ∧
    (out.2.2.done = false →
      out.1 = E.transition env (clip out.2.2.action) (sub key 1) ∧ out.2.1 = out.2.2.nextPolicyState) := by
  intro out
  -- both carried components are `if out.2.2.done then (restart) else (continue)` by definition
  exact ⟨fun h => ⟨if_pos h, if_pos h⟩,
    fun h => ⟨if_neg (Bool.eq_false_iff.mp h), if_neg (Bool.eq_false_iff.mp h)⟩⟩

/-- one step inserts exactly one transition into that environment's own buffer -/
theorem offStep_buffer (st : StepState S PS O A α) (key : K) :
    (offStep E clip P st key).buffer = add st.buffer (stepRow E clip P st.env st.policy key).2.2 :=
  rfl

theorem producedRows_cons (env : S) (ps : PS) (k : K) (ks : List K) :
    producedRows E clip P env ps (k :: ks) =
      (stepRow E clip P env ps k).2.2 ::
        producedRows E clip P (stepRow E clip P env ps k).1 (stepRow E clip P env ps k).2.1 ks :=
  rfl

/-- the buffer after a collection is the old buffer with the produced rows inserted in order -/
theorem collect_buffer (st : StepState S PS O A α) (keys : List K) :
    (collect E clip P st keys).buffer =
      (producedRows E clip P st.env st.policy keys).foldl add st.buffer := by
  induction keys generalizing st with
  | nil => rfl
  | cons k ks ih =>
      -- definitionally, both sides take their first step; what remains is `ih` at the next state
      exact ih (offStep E clip P st k)

theorem producedRows_length (env : S) (ps : PS) (keys : List K) :
    (producedRows E clip P env ps keys).length = keys.length := by
  induction keys generalizing env ps with
  | nil => rfl
  | cons k ks ih => rw [producedRows_cons, List.length_cons, ih, List.length_cons]

theorem collect_pos (st : StepState S PS O A α) (keys : List K) :
    (collect E clip P st keys).buffer.pos = st.buffer.pos + keys.length := by
  rw [collect_buffer, foldl_add_pos, producedRows_length]

/-- **Warm-up stores exactly `learning_starts` transitions** in an environment's buffer before
    the first update … -/
theorem warmup_count (cap : Nat) (key : K) (warmKeys : List K) :
    (collect E clip P (initialState E P cap key) warmKeys).buffer.pos = warmKeys.length :=
  (collect_pos E clip P _ warmKeys).trans (Nat.zero_add _)

/-- … **and every iteration adds `num_steps`**: after warm-up and any list of iterations the
    insertion count is `learning_starts + Σ num_steps` (so `learning_starts + k · num_steps`). -/
theorem iteration_count_growth (cap : Nat) (key : K) (warmKeys : List K) (iters : List (List K)) :
    (iters.foldl (collect E clip P) (collect E clip P (initialState E P cap key) warmKeys)).buffer.pos
      = warmKeys.length + (iters.map List.length).sum := by
  suffices ∀ st : StepState S PS O A α,
      (iters.foldl (collect E clip P) st).buffer.pos = st.buffer.pos + (iters.map List.length).sum by
    rw [this, warmup_count]
  induction iters with
  | nil => exact fun st => (Nat.add_zero _).symm
  | cons ks rest ih =>
      intro st
      rw [List.foldl_cons, ih, collect_pos, List.map_cons, List.sum_cons, Nat.add_assoc]

/-- **What the buffer then holds** (composition with C06): after collecting from an empty buffer
    of capacity `C > 0`, the buffer contains exactly the most recent `min(n, C)` transitions that
    happened, oldest first. -/
theorem buffer_holds_recent_transitions (C : Nat) (hC : 0 < C) (key : K) (keys : List K) :
    let st0 := initialState E P C key
    contents (collect E clip P st0 keys).buffer =
      (producedRows E clip P st0.env st0.policy keys).drop
        ((producedRows E clip P st0.env st0.policy keys).length - C) := by
  intro st0
  rw [collect_buffer]
  exact Lerax.C06.contents_lastN C hC _

instance : Keys Nat := ⟨fun k i => k + i⟩

def toyEnv : Env Nat Nat Nat Int Nat where
  initial _ := 0
  transition s _ _ := s + 1
  observation s _ := s
  reward _ a _ _ := a
  terminal s _ := decide (3 ≤ s)
  truncate s := decide (2 ≤ s)

def toyPolicy : Policy Nat Nat Nat Nat := { act := fun ps o _ => (ps + 1, o + 5), reset := fun _ => 0 }

example : ((collect toyEnv (fun a => min a 6) toyPolicy (initialState toyEnv toyPolicy 2 0) [1, 2, 3]).buffer.pos = 3) ∧
    (stepRow toyEnv (fun a => min a 6) toyPolicy 1 0 0).2.2.timeout = true ∧
    (stepRow toyEnv (fun a => min a 6) toyPolicy 2 0 0).2.2.timeout = false ∧
    (stepRow toyEnv (fun a => min a 6) toyPolicy 2 0 0).2.2.reward = 6 := by decide

end Lerax.C05
