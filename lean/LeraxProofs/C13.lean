/-
  C13 — Wrappers and adapters change only what they declare; TimeLimit is exact.
-/
import LeraxModel.Env
import LeraxModel.Rescale
import LeraxProofs.ListFacts
import LeraxProofs.Clip
import Mathlib.Algebra.Order.Field.Basic
import Mathlib.Tactic.LinearCombination

namespace Lerax.C13
open Lerax.Env

set_option linter.unusedSectionVars false

section wrappers
variable {S A O R K : Type} [Keys K]

/-- **Action wrappers feed the inner environment the mapped action for dynamics and reward
    alike** and leave every other component untouched. -/
theorem mapAction_uses_mapped_action {A' : Type} (f : A' → A) (E : Env S A O R K)
    (s s' : S) (a : A') (k : K) :
    (mapAction f E).transition s a k = E.transition s (f a) k ∧
    (mapAction f E).reward s a s' k = E.reward s (f a) s' k ∧
    (mapAction f E).initial = E.initial ∧ (mapAction f E).observation = E.observation ∧
    (mapAction f E).terminal = E.terminal ∧ (mapAction f E).truncate = E.truncate :=
  ⟨rfl, rfl, rfl, rfl, rfl, rfl⟩

/-- **Observation wrappers post-process only the observation.** -/
theorem mapObs_only_obs {O' : Type} (g : O → O') (E : Env S A O R K) (s : S) (k : K) :
    (mapObs g E).observation s k = g (E.observation s k) ∧
    (mapObs g E).transition = E.transition ∧ (mapObs g E).reward = E.reward ∧
    (mapObs g E).initial = E.initial ∧ (mapObs g E).terminal = E.terminal ∧
    (mapObs g E).truncate = E.truncate :=
  ⟨rfl, rfl, rfl, rfl, rfl, rfl⟩

/-- **Reward wrappers post-process only the reward.** -/
theorem mapReward_only_reward (h : R → R) (E : Env S A O R K) (s s' : S) (a : A) (k : K) :
    (mapReward h E).reward s a s' k = h (E.reward s a s' k) ∧
    (mapReward h E).transition = E.transition ∧ (mapReward h E).observation = E.observation ∧
    (mapReward h E).initial = E.initial ∧ (mapReward h E).terminal = E.terminal ∧
    (mapReward h E).truncate = E.truncate :=
  ⟨rfl, rfl, rfl, rfl, rfl, rfl⟩

theorem identity_is_inner (E : Env S A O R K) : identity E = E := rfl

/-- `TimeLimit` changes only the truncation signal (and carries a counter). -/
theorem timeLimit_passthrough (n : Nat) (E : Env S A O R K) (s s' : S × Nat) (a : A) (k : K) :
    ((timeLimit n E).transition s a k).1 = E.transition s.1 a k ∧
    (timeLimit n E).reward s a s' k = E.reward s.1 a s'.1 k ∧
    (timeLimit n E).observation s k = E.observation s.1 k ∧
    (timeLimit n E).terminal s k = E.terminal s.1 k ∧
    ((timeLimit n E).initial k).1 = E.initial k :=
  ⟨rfl, rfl, rfl, rfl, rfl⟩

end wrappers

/-! ### arbitrary stacks: the wrapped environment is the base environment seen through the
    composed action / observation / reward maps -/

section wstacks
variable {S0 A0 O0 R K : Type} [Keys K]

/-- composition of all action maps of a stack (outermost applied first) -/
def actMap {S A O : Type} : Stack S0 A0 O0 R S A O → A → A0
  | .base, a => a
  | .identity st, a => actMap st a
  | .timeLimit _ st, a => actMap st a
  | .mapAction f st, a => actMap st (f a)
  | .mapObs _ st, a => actMap st a
  | .mapReward _ st, a => actMap st a

def obsMap {S A O : Type} : Stack S0 A0 O0 R S A O → O0 → O
  | .base, o => o
  | .identity st, o => obsMap st o
  | .timeLimit _ st, o => obsMap st o
  | .mapAction _ st, o => obsMap st o
  | .mapObs g st, o => g (obsMap st o)
  | .mapReward _ st, o => obsMap st o

def rewMap {S A O : Type} : Stack S0 A0 O0 R S A O → R → R
  | .base, r => r
  | .identity st, r => rewMap st r
  | .timeLimit _ st, r => rewMap st r
  | .mapAction _ st, r => rewMap st r
  | .mapObs _ st, r => rewMap st r
  | .mapReward h st, r => h (rewMap st r)

/-- some `TimeLimit` in the stack has reached its limit -/
def limitHit {S A O : Type} : Stack S0 A0 O0 R S A O → S → Bool
  | .base, _ => false
  | .identity st, s => limitHit st s
  | .timeLimit n st, s => decide (n ≤ s.2) || limitHit st s.1
  | .mapAction _ st, s => limitHit st s
  | .mapObs _ st, s => limitHit st s
  | .mapReward _ st, s => limitHit st s

/-- **Everything else passes through unchanged, for arbitrary wrapper stacks**: the unwrapped
    successor is the base successor under the composed action map; the reward is the base reward
    of the mapped action through the composed reward map; the observation is the base
    observation through the composed observation map; termination is the base's; truncation is
    the base's or a time limit's. -/
theorem stack_semantics {S A O : Type} (st : Stack S0 A0 O0 R S A O) (E : Env S0 A0 O0 R K)
    (s s' : S) (a : A) (k : K) :
    st.unwrapState ((st.denote E).transition s a k) = E.transition (st.unwrapState s) (actMap st a) k ∧
    (st.denote E).reward s a s' k =
      rewMap st (E.reward (st.unwrapState s) (actMap st a) (st.unwrapState s') k) ∧
    (st.denote E).observation s k = obsMap st (E.observation (st.unwrapState s) k) ∧
    (st.denote E).terminal s k = E.terminal (st.unwrapState s) k ∧
    (st.denote E).truncate s = (E.truncate (st.unwrapState s) || limitHit st s) := by
  induction st with
  | base => exact ⟨rfl, rfl, rfl, rfl, (Bool.or_false _).symm⟩
  | identity st ih => exact ih s s' a
  | timeLimit n st ih =>
      obtain ⟨h1, h2, h3, h4, h5⟩ := ih s.1 s'.1 a
      refine ⟨h1, h2, h3, h4, ?_⟩
      show ((st.denote E).truncate s.1 || decide (n ≤ s.2)) = _
      -- TimeLimit's own test is or-ed last by `timeLimit`, first by `limitHit`
      rw [h5, limitHit, Bool.or_assoc, Bool.or_comm (limitHit st s.1)]
      rfl
  | mapAction f st ih => exact ih s s' (f a)
  | mapObs g st ih =>
      obtain ⟨h1, h2, h3, h4, h5⟩ := ih s s' a
      exact ⟨h1, h2, congrArg g h3, h4, h5⟩
  | mapReward h st ih =>
      obtain ⟨h1, h2, h3, h4, h5⟩ := ih s s' a
      exact ⟨h1, congrArg h h2, h3, h4, h5⟩

end wstacks

section timelimit
variable {S A O R K : Type} [Keys K]

/-- states reachable through the Gym-style API of `TimeLimit(N, E)`, indexed by the number of
    steps taken in the current episode -/
inductive ReachN (N : Nat) (E : Env S A O R K) : S × Nat → Nat → Prop where
  | reset (k : K) : ReachN N E ((timeLimit N E).reset k).1 0
  | step {s : S × Nat} {j : Nat} (a : A) (k : K) : ReachN N E s j →
      ReachN N E ((timeLimit N E).step s a k).state
        (if ((timeLimit N E).step s a k).terminal || ((timeLimit N E).step s a k).truncate
         then 0 else j + 1)

/-- what `TimeLimit` adds to a Gym-style step: the flag, and the counter handed back -/
theorem timeLimit_step_truncate (N : Nat) (E : Env S A O R K) (s : S × Nat) (a : A) (k : K) :
    ((timeLimit N E).step s a k).truncate =
      (E.truncate (E.transition s.1 a (sub k 0)) || decide (N ≤ s.2 + 1)) := rfl

theorem timeLimit_step_counter (N : Nat) (E : Env S A O R K) (s : S × Nat) (a : A) (k : K) :
    ((timeLimit N E).step s a k).state.2 =
      if ((timeLimit N E).step s a k).terminal || ((timeLimit N E).step s a k).truncate
      then 0 else s.2 + 1 :=
  -- `.2` of the `if` inside `Env.step`; its branches are `0` and `s.2 + 1` by definition of `timeLimit`
  apply_ite Prod.snd _ _ _

/-- **The counter is the number of steps taken in the current episode and never reaches the
    limit at a state handed back by the API** (for every `N ≥ 1`, inner environment, history). -/
theorem counter_is_episode_step (N : Nat) (hN : 1 ≤ N) (E : Env S A O R K) (s : S × Nat) (j : Nat)
    (h : ReachN N E s j) : s.2 = j ∧ j < N := by
  induction h with
  | reset k => exact ⟨rfl, hN⟩
  | @step s j a k _ ih =>
      rw [timeLimit_step_counter]
      split
      · exact ⟨rfl, hN⟩
      · next hd =>
        -- no flag was raised, so in particular the limit was not reached
        rw [timeLimit_step_truncate, Bool.or_eq_true, Bool.or_eq_true, decide_eq_true_eq] at hd
        have hlim : ¬ N ≤ s.2 + 1 := fun h => hd (.inr (.inr h))
        omega

/-- **Truncation is raised at exactly the N-th step of an episode, never earlier or later**:
    at a reachable state that is `j` steps into its episode, the step's truncation flag is the
    inner environment's own truncation or `j + 1 = N`. -/
theorem timelimit_exact (N : Nat) (hN : 1 ≤ N) (E : Env S A O R K) (s : S × Nat) (j : Nat)
    (h : ReachN N E s j) (a : A) (k : K) :
    ((timeLimit N E).step s a k).truncate =
      (E.truncate (E.transition s.1 a (sub k 0)) || decide (j + 1 = N)) := by
  obtain ⟨hc, hj⟩ := counter_is_episode_step N hN E s j h
  rw [timeLimit_step_truncate, hc]
  -- below the limit, `N ≤ j + 1` can only hold with equality
  exact congrArg _ (decide_eq_decide.mpr (by omega))

/-- **The count restarts on reset**: after a step that raised a flag the counter is 0. -/
theorem timelimit_restarts (N : Nat) (E : Env S A O R K) (s : S × Nat) (a : A) (k : K)
    (h : ((timeLimit N E).step s a k).terminal = true ∨ ((timeLimit N E).step s a k).truncate = true) :
    ((timeLimit N E).step s a k).state.2 = 0 := by
  rw [timeLimit_step_counter, if_pos ((Bool.or_eq_true _ _).mpr h)]

/-- functional API: after `j` transitions from an initial state the counter is `j`. -/
theorem timelimit_counter_functional (N : Nat) (E : Env S A O R K) (k0 : K) (hist : List (A × K)) :
    (hist.foldl (fun s ak => (timeLimit N E).transition s ak.1 ak.2) ((timeLimit N E).initial k0)).2
      = hist.length :=
  (ListFacts.foldl_counter _ Prod.snd (fun _ _ => rfl) hist _).trans (Nat.zero_add _)

end timelimit

section adapters
variable {S A O R K : Type} [Keys K]

/-- **The Gymnasium adapter reproduces the trajectory of the environment it adapts**: the outputs
    of any sequence of adapter steps are the outputs of the adapted environment's own `step`
    chained from the adapter's state under the adapter's key schedule (`key, step_key = split`). -/
theorem adapter_trajectory (E : Env S A O R K) (ad : GymAdapter S K) (actions : List A) :
    GymAdapter.run E ad actions = envRun E ad.state ad.key actions := by
  induction actions generalizing ad with
  | nil => rfl
  | cons a as ih => exact congrArg (_ :: ·) (ih _)

/-- `reset` hands back the adapted environment's own reset (state kept, observation returned) -/
theorem adapter_reset (E : Env S A O R K) (ad : GymAdapter S K) (seed : Option K) :
    (ad.reset E seed).1.state = (E.reset (sub (seed.getD ad.key) 1)).1 ∧
    (ad.reset E seed).2 = (E.reset (sub (seed.getD ad.key) 1)).2 := ⟨rfl, rfl⟩

/-- **The Gymnax adapter**: `done` is raised exactly when the transition taken is terminal or truncated (a
    time limit anywhere in the stack counts), and then the returned state is a freshly drawn initial state —
    whatever the environment / wrapper stack. -/
theorem gymnax_done_iff (E : Env S A O R K) (s : S) (a : A) (k : K) :
    let out := gymnaxStepEnv E s a k
    let next := E.transition s a (sub k 0)
    (out.2.2.2 = (E.terminal next (sub k 2) || E.truncate next)) ∧
    (out.2.2.2 = true → out.2.1 = E.initial (sub k 3)) ∧
    (out.2.2.2 = false → out.2.1 = next) ∧
    out.2.2.1 = E.reward s a next (sub k 1) :=
  -- `gymnaxStepEnv` is `Env.step` read as a 4-tuple with `done = terminal || truncate`
  ⟨rfl, fun h => if_pos h, fun h => if_neg (ne_true_of_eq_false h), rfl⟩

/-- in particular through a `TimeLimit n` over any inner environment: the `n`-th step of an episode raises `done` -/
theorem gymnax_done_at_time_limit (E : Env S A O R K) (n : Nat) (s : S) (c : Nat) (a : A) (k : K)
    (hc : n ≤ c + 1) : (gymnaxStepEnv (timeLimit n E) (s, c) a k).2.2.2 = true := by
  show (((timeLimit n E).step (s, c) a k).terminal || ((timeLimit n E).step (s, c) a k).truncate) = true
  rw [timeLimit_step_truncate, decide_eq_true hc, Bool.or_true, Bool.or_true]

end adapters

section affine
open Lerax.Rescale
variable {α : Type} [Field α]

theorem intercept_some (low high mn : α) (mx : Option α) :
    intercept low high (some mn) mx = mn - low * gradient low high (some mn) mx := rfl

/-- `forward` and `backward` undo each other wherever the gradient is not zero, whichever of
    the new bounds are finite. -/
theorem inverse_of_gradient_ne_zero (low high : α) (mn mx : Option α)
    (hg : gradient low high mn mx ≠ 0) (x : α) :
    backward low high mn mx (forward low high mn mx x) = x ∧
    forward low high mn mx (backward low high mn mx x) = x := by
  constructor
  · rw [backward, forward, add_sub_cancel_right, mul_div_cancel_left₀ x hg]
  · rw [forward, backward, mul_div_cancel₀ _ hg, sub_add_cancel]

/-- a finite new lower bound is the image of `low`, whatever the gradient -/
theorem forward_low (low high mn : α) (mx : Option α) : forward low high (some mn) mx low = mn := by
  rw [forward, intercept_some, mul_comm, add_sub_cancel]

end affine

section clip
open Lerax.Rescale
variable {α : Type} [LinearOrder α]

theorem clip_eq_min_max (lo hi x : α) : clip lo hi x = min (max x lo) hi := by
  rw [clip, ite_lt_eq_max, ite_lt_eq_min]

end clip

section rescale
open Lerax.Rescale
variable {α : Type} [Field α] [LinearOrder α] [IsStrictOrderedRing α]

theorem rescale_gradient_pos (low high mn mx : α) (hb : low < high) (hm : mn < mx) :
    0 < gradient low high (some mn) (some mx) :=
  div_pos (sub_pos.mpr hm) (sub_pos.mpr hb)

/-- **For bounded boxes the affine rescale takes the new bounds exactly onto the original
    bounds** (and back), is increasing, and the two maps are mutually inverse. -/
theorem rescale_endpoints (low high mn mx : α) (hb : low < high) (hm : mn < mx) :
    backward low high (some mn) (some mx) mn = low ∧
    backward low high (some mn) (some mx) mx = high ∧
    forward low high (some mn) (some mx) low = mn ∧
    forward low high (some mn) (some mx) high = mx := by
  have hg := (rescale_gradient_pos low high mn mx hb hm).ne'
  have hl := forward_low low high mn (some mx)
  have hh : forward low high (some mn) (some mx) high = mx := by
    rw [forward, intercept_some, gradient]
    -- slope times old width is the new width
    linear_combination div_mul_cancel₀ (mx - mn) (sub_pos.mpr hb).ne'
  have inv := inverse_of_gradient_ne_zero low high (some mn) (some mx) hg
  -- a new endpoint is the image of the old one (`hl`, `hh`), so the inverse takes it back
  have bl := (inv low).1
  have bh := (inv high).1
  rw [hl] at bl
  rw [hh] at bh
  exact ⟨bl, bh, hl, hh⟩

theorem rescale_inverse (low high mn mx : α) (hb : low < high) (hm : mn < mx) (x : α) :
    backward low high (some mn) (some mx) (forward low high (some mn) (some mx) x) = x ∧
    forward low high (some mn) (some mx) (backward low high (some mn) (some mx) x) = x :=
  inverse_of_gradient_ne_zero _ _ _ _ (rescale_gradient_pos low high mn mx hb hm).ne' x

theorem rescale_monotone (low high mn mx : α) (hb : low < high) (hm : mn < mx) (x y : α)
    (hxy : x ≤ y) :
    forward low high (some mn) (some mx) x ≤ forward low high (some mn) (some mx) y ∧
    backward low high (some mn) (some mx) x ≤ backward low high (some mn) (some mx) y := by
  have hg := (rescale_gradient_pos low high mn mx hb hm).le
  exact ⟨add_le_add_left (mul_le_mul_of_nonneg_left hxy hg) _,
    div_le_div_of_nonneg_right (sub_le_sub_right hxy _) hg⟩

/-- hence members of the new box map to members of the original box -/
theorem rescale_maps_box_into_box (low high mn mx : α) (hb : low < high) (hm : mn < mx) (y : α)
    (h1 : mn ≤ y) (h2 : y ≤ mx) :
    low ≤ backward low high (some mn) (some mx) y ∧ backward low high (some mn) (some mx) y ≤ high := by
  obtain ⟨e1, e2, _, _⟩ := rescale_endpoints low high mn mx hb hm
  exact ⟨e1.symm.trans_le (rescale_monotone low high mn mx hb hm mn y h1).2,
    (rescale_monotone low high mn mx hb hm y mx h2).2.trans_eq e2⟩

/-- half-infinite new bounds: a translation that aligns the finite bound -/
theorem rescale_half_infinite (low high m : α) :
    forward low high none (some m) high = m ∧ forward low high (some m) none low = m ∧
    gradient low high none (some m) = 1 ∧ gradient low high (some m) none = 1 ∧
    (∀ x, forward low high (none : Option α) none x = x) := by
  refine ⟨?_, forward_low low high m none, rfl, rfl, fun x => ?_⟩
  · show 1 * high + (m - high) = m
    rw [one_mul, add_sub_cancel]
  · show 1 * x + 0 = x
    rw [one_mul, add_zero]

/-- `clip` lands in the bounds and fixes members. -/
theorem clip_spec (lo hi x : α) (h : lo ≤ hi) :
    lo ≤ clip lo hi x ∧ clip lo hi x ≤ hi ∧ (lo ≤ x → x ≤ hi → clip lo hi x = x) := by
  rw [clip_eq_min_max]
  exact ⟨le_min_max lo hi x h, min_le_right _ hi, min_max_of_mem lo hi x⟩

end rescale

/-- the defect repaired by /repo af4a27f, on a model of the pre-repair arithmetic:
    `rescale_box` when the new bounds are given as integers (`RescaleAction(env, 0, 1)`):
    `jnp.ones_like(min)` / `jnp.zeros_like(min)` are integer arrays, so gradient and intercept were truncated
    toward zero when stored (`.at[...].set` casts to the array's dtype) -/
def legacyIntGradient (lo hi mn mx : Int) : Int := Int.tdiv (mx - mn) (hi - lo)
def legacyIntForward (lo hi mn mx x : Int) : Int :=
  legacyIntGradient lo hi mn mx * x + (mn - lo * legacyIntGradient lo hi mn mx)

/-- whenever the new range is narrower than the original one (the normalisation use case) the legacy
    gradient was 0 and the forward map constant — the original bounds were not mapped onto the new ones,
    and `backward` divided by zero (the nan / inf actions observed) -/
theorem legacy_int_rescale_constant (lo hi mn mx x : Int) (h0 : 0 ≤ mx - mn) (h1 : mx - mn < hi - lo) :
    legacyIntGradient lo hi mn mx = 0 ∧ legacyIntForward lo hi mn mx x = mn := by
  have hg : legacyIntGradient lo hi mn mx = 0 := Int.tdiv_eq_zero_of_lt h0 h1
  exact ⟨hg, by rw [legacyIntForward, hg, Int.zero_mul, Int.mul_zero, Int.sub_zero, Int.zero_add]⟩

/-- concrete witness: Pendulum's torque box [-2, 2] rescaled to [0, 1] sent the upper bound 2 to 0, not 1 -/
theorem legacy_int_rescale_misses_upper_bound : legacyIntForward (-2) 2 0 1 2 ≠ 1 := by decide

example : Lerax.Rescale.backward (-2 : ℚ) 2 (some (-1)) (some 1) 1 = 2 := by decide +kernel

end Lerax.C13
