/-
  C02 for wrapper stacks: "for every built-in environment and every wrapper stack over one, the
  observation of every reachable state is a member of the DECLARED observation space, and members of the
  declared action space are accepted (mapped into the base environment's action space)".

  A stack is `Sound` when each observation layer maps the space declared below it into the space it
  declares, and each action layer maps its declared space into the one below; the layer lemmas
  discharge this for the concrete wrappers.  `Good` is any set of base states that contains the initial
  states and is closed under the base dynamics: the theorems hold at every wrapped state that unwraps into it.
  What a stack does to states and actions is `C13.stack_semantics` and `C01.unwrapped_initial`.
-/
import LeraxModel.Env
import LeraxProofs.C01
import LeraxProofs.C13

namespace Lerax.C02Stack
open Lerax.Env Lerax.Rescale

set_option linter.unusedSectionVars false

section stk
variable {S0 A0 O0 R K : Type} [Keys K]

/-- the observation of a wrapped state is the layers' maps applied to the base observation of the
    unwrapped state — and it lies in the declared space when the base observation does -/
theorem stack_obs_in_declared_space {S A O : Type} (st : SpacedStack S0 A0 O0 R S A O)
    (E : Env S0 A0 O0 R K) (baseObs : O0 → Prop) (baseAct : A0 → Prop) (Good : S0 → Prop)
    (hbase : ∀ s k, Good s → baseObs (E.observation s k))
    (hs : st.Sound baseObs baseAct) (s : S) (k : K) (hg : Good (st.toStack.unwrapState s)) :
    st.obsSpace baseObs ((st.toStack.denote E).observation s k) := by
  induction st with
  | base => exact hbase s k hg
  | identity st ih => exact ih hs s hg
  | timeLimit n st ih => exact ih hs s.1 hg
  | mapAction f actP st ih => exact ih hs.2 s hg
  | mapObs g obsP st ih => exact hs.1 _ (ih hs.2 s hg)
  | mapReward h st ih => exact ih hs s hg

/-- what the base environment is driven with when the wrapped environment receives action `a` -/
def baseAction {S A O : Type} : SpacedStack S0 A0 O0 R S A O → A → A0
  | .base, a => a
  | .identity st, a => baseAction st a
  | .timeLimit _ st, a => baseAction st a
  | .mapAction f _ st, a => baseAction st (f a)
  | .mapObs _ _ st, a => baseAction st a
  | .mapReward _ st, a => baseAction st a

/-- **Members of the declared action space are accepted**: they reach the base environment as members
    of its own action space, through every layer. -/
theorem stack_action_accepted {S A O : Type} (st : SpacedStack S0 A0 O0 R S A O)
    (baseObs : O0 → Prop) (baseAct : A0 → Prop) (hs : st.Sound baseObs baseAct) (a : A)
    (ha : st.actSpace baseAct a) : baseAct (baseAction st a) := by
  induction st with
  | base => exact ha
  | identity st ih => exact ih hs a ha
  | timeLimit n st ih => exact ih hs a ha
  | mapAction f actP st ih => exact ih hs.2 (f a) (hs.1 a ha)
  | mapObs g obsP st ih => exact ih hs.2 a ha
  | mapReward h st ih => exact ih hs a ha

theorem baseAction_eq_actMap {S A O : Type} (st : SpacedStack S0 A0 O0 R S A O) (a : A) :
    baseAction st a = C13.actMap st.toStack a := by
  induction st with
  | base => rfl
  | identity st ih => exact ih a
  | timeLimit n st ih => exact ih a
  | mapAction f actP st ih => exact ih (f a)
  | mapObs g obsP st ih => exact ih a
  | mapReward h st ih => exact ih a

/-- the wrapped transition unwraps to the base transition driven with `baseAction` -/
theorem unwrap_transition {S A O : Type} (st : SpacedStack S0 A0 O0 R S A O) (E : Env S0 A0 O0 R K)
    (s : S) (a : A) (k : K) :
    st.toStack.unwrapState ((st.toStack.denote E).transition s a k) =
      E.transition (st.toStack.unwrapState s) (baseAction st a) k :=
  baseAction_eq_actMap st a ▸ (C13.stack_semantics st.toStack E s s a k).1

/-- **Along every trajectory.**  If `Good` contains the base initial states and is closed under base
    transitions with in-space actions, then the state returned by the wrapped `reset`, and by the wrapped
    `step` from a `Good` state with a declared-space action, unwraps to a `Good` state — so the returned
    observation is a member of the declared observation space (`stack_obs_in_declared_space`). -/
theorem reachable_stays_good {S A O : Type} (st : SpacedStack S0 A0 O0 R S A O) (E : Env S0 A0 O0 R K)
    (baseObs : O0 → Prop) (baseAct : A0 → Prop) (Good : S0 → Prop)
    (hinit : ∀ k, Good (E.initial k))
    (hstep : ∀ s a k, Good s → baseAct a → Good (E.transition s a k))
    (hs : st.Sound baseObs baseAct) :
    (∀ k, Good (st.toStack.unwrapState ((st.toStack.denote E).reset k).1)) ∧
    (∀ s a k, Good (st.toStack.unwrapState s) → st.actSpace baseAct a →
        Good (st.toStack.unwrapState ((st.toStack.denote E).step s a k).state)) := by
  constructor
  · intro k
    rw [Env.reset, C01.unwrapped_initial]
    exact hinit _
  · intro s a k hg ha
    rw [C01.step_state]
    split
    · rw [C01.unwrapped_initial]
      exact hinit _
    · rw [unwrap_transition]
      exact hstep _ _ _ hg (stack_action_accepted st baseObs baseAct hs a ha)

/-- hence: the observation returned by the wrapped `step` is a member of the declared space -/
theorem step_obs_in_declared_space {S A O : Type} (st : SpacedStack S0 A0 O0 R S A O) (E : Env S0 A0 O0 R K)
    (baseObs : O0 → Prop) (baseAct : A0 → Prop) (Good : S0 → Prop)
    (hbase : ∀ s k, Good s → baseObs (E.observation s k))
    (hinit : ∀ k, Good (E.initial k))
    (hstep : ∀ s a k, Good s → baseAct a → Good (E.transition s a k))
    (hs : st.Sound baseObs baseAct) (s : S) (a : A) (k : K)
    (hg : Good (st.toStack.unwrapState s)) (ha : st.actSpace baseAct a) :
    st.obsSpace baseObs ((st.toStack.denote E).step s a k).observation :=
  stack_obs_in_declared_space st E baseObs baseAct Good hbase hs _ k
    ((reachable_stays_good st E baseObs baseAct Good hinit hstep hs).2 s a k hg ha)

end stk

section layers
variable {α : Type} [Field α] [LinearOrder α] [IsStrictOrderedRing α]

/-- `ClipObservation` / `ClipAction` (one coordinate): whatever comes in, the clipped value is a member of
    `[lo, hi]`.  (Shaped — with the unused `P` and the applied `fun` — to be `exact`-ed as an observation or
    action conjunct of `SpacedStack.Sound`.) -/
theorem clip_layer_sound (lo hi : α) (h : lo ≤ hi) (P : α → Prop) :
    ∀ x, P x → (fun y => lo ≤ y ∧ y ≤ hi) (clip lo hi x) := by
  intro x _
  exact ⟨(C13.clip_spec lo hi x h).1, (C13.clip_spec lo hi x h).2.1⟩

/-- `RescaleObservation` (one coordinate, bounded box): members of `[low, high]` map into `[mn, mx]` -/
theorem rescale_obs_layer_sound (low high mn mx : α) (hb : low < high) (hm : mn < mx) :
    ∀ x, (low ≤ x ∧ x ≤ high) → (mn ≤ forward low high (some mn) (some mx) x ∧
                                  forward low high (some mn) (some mx) x ≤ mx) := by
  intro x ⟨h1, h2⟩
  obtain ⟨_, _, e3, e4⟩ := C13.rescale_endpoints low high mn mx hb hm
  exact ⟨e3.symm.trans_le (C13.rescale_monotone low high mn mx hb hm low x h1).1,
    (C13.rescale_monotone low high mn mx hb hm x high h2).1.trans_eq e4⟩

/-- `RescaleAction`: members of the advertised `[mn, mx]` reach the inner environment inside `[low, high]` -/
theorem rescale_action_layer_sound (low high mn mx : α) (hb : low < high) (hm : mn < mx) :
    ∀ y, (mn ≤ y ∧ y ≤ mx) → (low ≤ backward low high (some mn) (some mx) y ∧
                               backward low high (some mn) (some mx) y ≤ high) := by
  intro y ⟨h1, h2⟩
  exact C13.rescale_maps_box_into_box low high mn mx hb hm y h1 h2

end layers

/-! ### non-vacuity: an action wrapper above an observation wrapper above a time limit -/

section example_
instance : Keys Nat := ⟨fun k i => k + i⟩

def toy : Env Nat Int Int Int Nat where
  initial _ := 0
  transition s a _ := (s + a.toNat) % 7
  observation s _ := (s : Int) - 3
  reward _ _ _ _ := 0
  terminal _ _ := false
  truncate _ := false

/-- ClipAction([-1,1]) ∘ RescaleObservation-like (o ↦ 2·o) ∘ TimeLimit(3) over `toy` -/
def toyStack : SpacedStack Nat Int Int Int (Nat × Nat) Int Int :=
  .mapAction (fun a => max (-1) (min 1 a)) (fun _ => True)
    (.mapObs (fun o => 2 * o) (fun o => -6 ≤ o ∧ o ≤ 6) (.timeLimit 3 .base))

example : toyStack.Sound (fun o => -3 ≤ o ∧ o ≤ 3) (fun a => -1 ≤ a ∧ a ≤ 1) := by
  refine ⟨?_, ?_, trivial⟩
  · intro a _; simp only [SpacedStack.actSpace]; omega
  · intro o h
    simp only [SpacedStack.obsSpace] at h
    show -6 ≤ 2 * o ∧ 2 * o ≤ 6
    omega

example : toyStack.obsSpace (fun o => -3 ≤ o ∧ o ≤ 3) ((toyStack.toStack.denote toy).observation (5, 2) 0) := by
  show -6 ≤ 2 * (((5 : Nat) : Int) - 3) ∧ 2 * (((5 : Nat) : Int) - 3) ≤ 6
  decide

end example_

end Lerax.C02Stack
