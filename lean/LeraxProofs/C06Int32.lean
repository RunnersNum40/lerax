/-
  C06, word size of `position` — the int32 counter of `ReplayBuffer` refines the `Nat`
  counter of `LeraxModel/Replay.lean` for every history of fewer than `2^31` insertions, so
  every C06 theorem proved over `Buf` holds of the 32-bit model on those histories; and the
  bound is tight: the `2^31`-th insertion makes `current_size` negative (`overflow_forgets`),
  which is why the property is claimed for histories below that length only.
-/
import LeraxProofs.ReplayAdd

namespace Lerax.C06
open Lerax.Replay

variable {ρ : Type}

theorem abs32_empty32 (C : Nat) : abs32 (empty32 C : Buf32 ρ) = empty C := rfl

/-- one insertion: same slot written, counter advanced by one, as long as the new count
    still fits in the non-negative half of int32 -/
theorem abs32_add32 (b : Buf32 ρ) (row : ρ) (h : b.pos.toNat + 1 < 2 ^ 31) :
    abs32 (add32 b row) = add (abs32 b) row := by
  have hidx : idx32 b.pos b.cap = b.pos.toNat % b.cap := by
    unfold idx32
    rw [BitVec.toInt_eq_toNat_of_lt (by omega), ← Int.natCast_emod, Int.toNat_natCast]
  have hpos : (b.pos + 1).toNat = b.pos.toNat + 1 :=
    BitVec.toNat_add_of_lt (Nat.lt_trans h (by decide))
  simp only [abs32, add32, add, hidx, hpos]

theorem currentSize32_eq (b : Buf32 ρ) (h : b.pos.toNat < 2 ^ 31) :
    currentSize32 b = (currentSize (abs32 b) : Int) := by
  rw [currentSize32, BitVec.toInt_eq_toNat_of_lt (by omega)]
  exact (Lean.Omega.Int.ofNat_min b.pos.toNat b.cap).symm

theorem validMask32_eq (b : Buf32 ρ) (h : b.pos.toNat < 2 ^ 31) :
    validMask32 b = validMask (abs32 b) := by
  unfold validMask32 validMask
  rw [currentSize32_eq b h]
  exact List.map_congr_left fun j _ => decide_eq_decide.mpr Int.ofNat_lt

/-- **Refinement, every history shorter than 2^31.**  Folding the int32 `add32` over any rows
    from any state and forgetting the word size equals folding the `Nat` model's `add`. -/
theorem abs32_foldl (rows : List ρ) (b : Buf32 ρ)
    (h : b.pos.toNat + rows.length < 2 ^ 31) :
    abs32 (rows.foldl add32 b) = rows.foldl add (abs32 b) := by
  induction rows generalizing b with
  | nil => rfl
  | cons r rs ih =>
    rw [List.length_cons] at h
    have hstep := abs32_add32 b r (by omega)
    -- the counter after one step, read off the refinement
    have hpos : (add32 b r).pos.toNat = b.pos.toNat + 1 := congrArg Buf.pos hstep
    rw [List.foldl_cons, List.foldl_cons, ih (add32 b r) (by omega), hstep]

/-- from the empty buffer: the int32 model *is* the `Nat` model on such histories, together
    with its validity mask — so `contents_lastN`, `valid_iff_written`, `flat_valid`,
    `sample_ok` transfer verbatim. -/
theorem int32_refines (C : Nat) (rows : List ρ) (h : rows.length < 2 ^ 31) :
    abs32 (rows.foldl add32 (empty32 C)) = rows.foldl add (empty C) ∧
    validMask32 (rows.foldl add32 (empty32 C)) = validMask (rows.foldl add (empty C)) := by
  have h0 : (empty32 C : Buf32 ρ).pos.toNat + rows.length < 2 ^ 31 := by simpa [empty32] using h
  have hr := abs32_foldl rows (empty32 C) h0
  rw [abs32_empty32] at hr
  -- the int32 counter counts the insertions, as that of the `Nat` model does
  have hp : (rows.foldl add32 (empty32 C)).pos.toNat = rows.length :=
    (congrArg Buf.pos hr).trans ((foldl_add_pos _ rows).trans (Nat.zero_add _))
  refine ⟨hr, ?_⟩
  rw [validMask32_eq _ (by omega), hr]

/-- **The bound is tight.**  A buffer that has received `2^31 - 1` insertions reports, after
    one more, a negative `current_size`: no slot is valid although every slot is written.
    (Reaching this takes 2^31 `add` calls per environment; the property's histories are
    claimed below that length, see DESIGN §C06.) -/
theorem overflow_forgets (b : Buf32 ρ) (row : ρ) (hp : b.pos = BitVec.ofNat 32 (2 ^ 31 - 1)) :
    currentSize32 (add32 b row) < 0 ∧ (validMask32 (add32 b row)).all (· == false) = true := by
  have hneg : (add32 b row).pos.toInt = -2147483648 := by
    simp [add32, hp]
  have hcs : currentSize32 (add32 b row) < 0 := by
    unfold currentSize32
    omega
  refine ⟨hcs, ?_⟩
  rw [validMask32, List.all_map, List.all_eq_true]
  intro j _
  have : ¬ ((j : Int) < currentSize32 (add32 b row)) := by omega
  simp [this]

/-- the hypotheses are met by a concrete non-trivial history (three insertions, capacity 2) -/
example : abs32 ([7, 8, 9].foldl add32 (empty32 2 : Buf32 Nat)) = [7, 8, 9].foldl add (empty 2) :=
  (int32_refines 2 [7, 8, 9] (by decide)).1

end Lerax.C06
