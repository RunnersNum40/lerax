/-
  C17 (MuJoCo) — assembly equality lerax ↔ Gymnasium v5 for all 11 environments, observation
  layout length (reused by C02) and coherence of the cached kinematics.

  `…L` = lerax, `…G` = Gymnasium (`LeraxModel/Mujoco.lean`).  Every theorem holds for ALL values
  of the physical quantities (`Phys`: whatever MJX / MuJoCo computed), all actions, all values
  of the documented constructor options (`Cfg`), over any commutative ring / ordered field.
  Side conditions are spelled out and are facts about the model dimensions (e.g. `nq ≥ 3`) or
  about the relation between the two APIs' inputs (`data.ctrl = action`).
-/
import LeraxModel.Mujoco
import LeraxProofs.Clip
import LeraxProofs.ListFacts
import Mathlib.Data.List.GetD
import Mathlib.Algebra.Order.Field.Basic
import Mathlib.Algebra.Order.Field.Rat

namespace Lerax.C17
open Lerax.Mujoco Lerax.Classic

set_option linter.unusedSectionVars false

section general
variable {α : Type} [Field α] [LinearOrder α] [IsStrictOrderedRing α]

theorem at'_append_left (xs ys : List α) (i : Nat) (h : i < xs.length) :
    at' (xs ++ ys) i = at' xs i :=
  List.getD_append xs ys 0 i h

section lists
variable {β : Type}

theorem flat_drop_length (rows : List (List β)) (k n j : Nat) (h : ∀ r ∈ rows, r.length = k)
    (hn : rows.length = n) : (flat (rows.drop j)).length = (n - j) * k := by
  rw [flat, ListFacts.length_flatten_uniform k _ fun r hr => h r (List.mem_of_mem_drop hr),
    List.length_drop, hn]

theorem row_length (rows : List (List β)) (k i : Nat) (h : ∀ r ∈ rows, r.length = k)
    (hi : i < rows.length) : (row rows i).length = k := by
  rw [row, List.getD_eq_getElem _ _ hi]
  exact h _ (List.getElem_mem hi)

/-- the position block of seven environments: `qpos`, its first `k` entries dropped on request,
    followed by the velocities -/
theorem posBlock_length {b : Bool} {k : Nat} {q v : List β} (hk : k ≤ q.length) :
    ((if b then q.drop k else q) ++ v).length = q.length + v.length - (if b then k else 0) := by
  cases b
  · exact List.length_append
  · rw [if_pos rfl, if_pos rfl, List.length_append, List.length_drop, Nat.sub_add_comm hk]

end lists

theorem invertedPendulum_obs_eq (c : Cfg α) (p : Phys α) : ipObsL c p = ipObsG c p := rfl

theorem invertedPendulum_terminated_eq (c : Cfg α) (p : Phys α) (hq : 2 ≤ p.qpos.length) :
    ipTermL c p = ipTermG c p := by
  simp only [ipTermL, ipTermG, ipHealthyL, at'_append_left p.qpos p.qvel 1 hq, Bool.not_and,
    not_decide_le]

theorem invertedPendulum_reward_eq (c : Cfg α) (prev next : Phys α) (a : List α)
    (hq : 2 ≤ next.qpos.length) :
    (ipRewardL c prev next a).total = (ipRewardG c prev next a).total := by
  have h := invertedPendulum_terminated_eq c next hq
  simp only [ipRewardL, ipRewardG, ← h, ipTermL, Bool.not_not]

theorem invertedDoublePendulum_obs_eq (f : Fns α) (c : Cfg α) (p : Phys α) :
    idpObsL f c p = idpObsG f c p := rfl

theorem invertedDoublePendulum_terminated_eq (c : Cfg α) (p : Phys α) :
    idpTermL c p = idpTermG c p := rfl

theorem idp_alive_eq (y h : α) :
    ofBool (decide (1 < y)) * h = h * ofBool (!decide (y ≤ 1)) := by
  rw [not_decide_le, mul_comm]

theorem invertedDoublePendulum_reward_eq (c : Cfg α) (prev next : Phys α) (a : List α) :
    (idpRewardL c prev next a).total = (idpRewardG c prev next a).total := by
  simp only [idpRewardL, idpRewardG, idpTermG, idp_alive_eq]

/-- components: same three quantities; lerax reports the penalties as positive numbers under
    the keys `dist_penalty / vel_penalty / alive_bonus`, Gymnasium as negative numbers under
    `distance_penalty / velocity_penalty / reward_survive`. -/
theorem invertedDoublePendulum_components_rel (c : Cfg α) (prev next : Phys α) (a : List α) :
    ∃ d v al : α,
      (idpRewardL c prev next a).comps = [("dist_penalty", d), ("vel_penalty", v), ("alive_bonus", al)] ∧
      (idpRewardG c prev next a).comps =
        [("reward_survive", al), ("distance_penalty", -d), ("velocity_penalty", -v)] := by
  refine ⟨_, _, _, rfl, ?_⟩
  simp only [idpRewardG, idpTermG, idp_alive_eq]

/-! ### Reacher — lerax reads `xipos`, Gymnasium `xpos`; equal when the fingertip−target
    difference is the same in both tables (true for `reacher.xml`, whose fingertip and target
    bodies have their inertial frame at the body origin; checked numerically by the harness) -/

theorem reacher_obs_eq (f : Fns α) (c : Cfg α) (p : Phys α)
    (hcom : vsub (row p.xipos c.fingertip) (row p.xipos c.target) =
            vsub (row p.xpos c.fingertip) (row p.xpos c.target)) :
    reacherObsL f c p = reacherObsG f c p := by
  simp only [reacherObsL, reacherObsG, hcom]

theorem reacher_reward_eq (f : Fns α) (c : Cfg α) (prev next : Phys α) (a : List α)
    (hcom : vsub (row next.xipos c.fingertip) (row next.xipos c.target) =
            vsub (row next.xpos c.fingertip) (row next.xpos c.target)) :
    (reacherRewardL f c prev next a).total = (reacherRewardG f c prev next a).total ∧
    (reacherRewardL f c prev next a).comps = (reacherRewardG f c prev next a).comps := by
  simp only [reacherRewardL, reacherRewardG, hcom, and_self]

theorem reacher_terminated_eq (c : Cfg α) (p : Phys α) : termL c p .reacher = termG c p .reacher :=
  rfl

theorem pusher_obs_eq (c : Cfg α) (p : Phys α) : pusherObsL c p = pusherObsG c p := rfl

theorem pusher_reward_eq (f : Fns α) (c : Cfg α) (prev next : Phys α) (a : List α) :
    (pusherRewardL f c prev next a).total = (pusherRewardG f c prev next a).total ∧
    (pusherRewardL f c prev next a).comps = (pusherRewardG f c prev next a).comps :=
  ⟨rfl, rfl⟩

theorem pusher_terminated_eq (c : Cfg α) (p : Phys α) : termL c p .pusher = termG c p .pusher := rfl

theorem halfCheetah_obs_eq (c : Cfg α) (p : Phys α) : cheetahObsL c p = cheetahObsG c p := rfl
theorem swimmer_obs_eq (c : Cfg α) (p : Phys α) : swimmerObsL c p = swimmerObsG c p := rfl

theorem halfCheetah_reward_eq (c : Cfg α) (prev next : Phys α) (a : List α) :
    (runRewardL c prev next a).total = (runRewardG c prev next a).total ∧
    (runRewardL c prev next a).comps = (runRewardG c prev next a).comps := ⟨rfl, rfl⟩

theorem swimmer_reward_eq (f : Fns α) (c : Cfg α) (prev next : Phys α) (a : List α) :
    (rewardL f c prev next a .swimmer).total = (rewardG f c prev next a .swimmer).total ∧
    (rewardL f c prev next a .swimmer).comps = (rewardG f c prev next a .swimmer).comps :=
  ⟨rfl, rfl⟩

theorem halfCheetah_terminated_eq (c : Cfg α) (p : Phys α) :
    termL c p .halfCheetah = termG c p .halfCheetah := rfl
theorem swimmer_terminated_eq (c : Cfg α) (p : Phys α) :
    termL c p .swimmer = termG c p .swimmer := rfl

theorem healthTerm_eq (h : Bool) (c : Cfg α) : healthTermL h c = healthTermG h c := by
  unfold healthTermL healthTermG
  cases c.termUnhealthy <;> simp

theorem hopper_healthy_eq (c : Cfg α) (p : Phys α) (hq : 2 ≤ p.qpos.length) :
    hopperHealthyL c p = hopperHealthyG c p := by
  simp only [hopperHealthyL, hopperHealthyG, List.drop_append_of_le_length hq]
  -- Gymnasium's `all([a, b, c])` against `a && b && c`
  simp only [List.all_cons, List.all_nil, id, Bool.and_true, Bool.and_assoc]

theorem hopper_obs_eq (c : Cfg α) (p : Phys α) : hopperObsL c p = hopperObsG c p := rfl
theorem walker2d_obs_eq (c : Cfg α) (p : Phys α) : walkerObsL c p = walkerObsG c p := rfl

theorem hopper_reward_eq (c : Cfg α) (prev next : Phys α) (a : List α)
    (hq : 2 ≤ next.qpos.length) :
    (legRewardL hopperHealthyL c prev next a).total = (legRewardG hopperHealthyG c prev next a).total ∧
    (legRewardL hopperHealthyL c prev next a).comps = (legRewardG hopperHealthyG c prev next a).comps := by
  simp only [legRewardL, legRewardG, hopper_healthy_eq c next hq, and_self]

theorem hopper_terminated_eq (c : Cfg α) (p : Phys α) (hq : 2 ≤ p.qpos.length) :
    termL c p .hopper = termG c p .hopper := by
  simp only [termL, termG, hopper_healthy_eq c p hq, healthTerm_eq]

theorem walker_healthy_eq (c : Cfg α) (p : Phys α) : walkerHealthyL c p = walkerHealthyG c p :=
  rfl

theorem walker2d_reward_eq (c : Cfg α) (prev next : Phys α) (a : List α) :
    (legRewardL walkerHealthyL c prev next a).total = (legRewardG walkerHealthyG c prev next a).total ∧
    (legRewardL walkerHealthyL c prev next a).comps = (legRewardG walkerHealthyG c prev next a).comps :=
  ⟨rfl, rfl⟩

theorem walker2d_terminated_eq (c : Cfg α) (p : Phys α) :
    termL c p .walker2d = termG c p .walker2d := by
  simp only [termL, termG, walker_healthy_eq, healthTerm_eq]

theorem ant_obs_eq (c : Cfg α) (p : Phys α) : antObsL c p = antObsG c p := by
  simp only [antObsL, antObsG]
  cases c.inclCfrc <;> simp

theorem ant_healthy_eq (c : Cfg α) (p : Phys α) (hq : 3 ≤ p.qpos.length) :
    antHealthyL c p = antHealthyG c p := by
  simp only [antHealthyL, antHealthyG, at'_append_left p.qpos p.qvel 2 hq]

theorem ant_reward_eq (c : Cfg α) (prev next : Phys α) (a : List α) (hq : 3 ≤ next.qpos.length) :
    (antRewardL c prev next a).total = (antRewardG c prev next a).total ∧
    (antRewardL c prev next a).comps = (antRewardG c prev next a).comps := by
  -- `x_velocity * w` against `w * x_velocity`; `rewards − (ctrl + contact)` against `rewards − ctrl − contact`
  simp only [antRewardL, antRewardG, ant_healthy_eq c next hq, mul_comm c.fwdW, sub_sub, and_self]

theorem ant_terminated_eq (c : Cfg α) (p : Phys α) (hq : 3 ≤ p.qpos.length) :
    termL c p .ant = termG c p .ant := by
  simp only [termL, termG, ant_healthy_eq c p hq, healthTerm_eq]

theorem humanoid_obs_eq (c : Cfg α) (p : Phys α) : humanoidObsL c p = humanoidObsG c p := rfl

/-- lerax charges the control cost on `action`, Gymnasium on `data.ctrl`; `transition` and
    `do_simulation` both write the action into `ctrl`.  (Besides: `rewards − (ctrl + contact)`
    against `rewards − ctrl − contact`, as for Ant.) -/
theorem humanoid_reward_eq (c : Cfg α) (prev next : Phys α) (a : List α) (hctrl : next.ctrl = a) :
    (humanoidRewardL c prev next a).total = (humanoidRewardG c prev next a).total ∧
    (humanoidRewardL c prev next a).comps = (humanoidRewardG c prev next a).comps := by
  simp only [humanoidRewardL, humanoidRewardWith, humanoidRewardG, humanoidContactCostL,
    humanoidContactCostG, hctrl, sub_sub, and_self]

theorem humanoid_terminated_eq (c : Cfg α) (p : Phys α) :
    termL c p .humanoid = termG c p .humanoid := by
  simp only [termL, termG, healthTerm_eq]

theorem humanoidStandup_obs_eq (f : Fns α) (c : Cfg α) (p : Phys α) :
    obsL f c p .humanoidStandup = obsG f c p .humanoidStandup := rfl

/-- Gymnasium v5 stores `uph_cost_weight` but does not apply it (and writes `(z − 0) / timestep`);
    equality for the default weight 1 (all other options arbitrary). -/
theorem humanoidStandup_reward_eq (c : Cfg α) (prev next : Phys α) (a : List α)
    (hw : c.uphW = 1) :
    (standupRewardL c prev next a).total = (standupRewardG c prev next a).total ∧
    (standupRewardL c prev next a).comps = (standupRewardG c prev next a).comps := by
  simp only [standupRewardL, standupRewardWith, standupRewardG, standupImpactCost, hw, one_mul,
    sub_zero, and_self]

theorem humanoidStandup_terminated_eq (c : Cfg α) (p : Phys α) :
    termL c p .humanoidStandup = termG c p .humanoidStandup := rfl

set_option linter.unusedVariables false in
/-- side conditions under which the two assemblies coincide (model dimensions; the two body
    position tables agreeing where Reacher reads them; `ctrl = action`; default `uph` weight) -/
def AssemblyHyp (c : Cfg α) (prev next : Phys α) (a : List α) : Env → Prop
  | .ant => 3 ≤ next.qpos.length
  | .hopper => 2 ≤ next.qpos.length
  | .invertedPendulum => 2 ≤ next.qpos.length
  | .humanoid => next.ctrl = a
  | .humanoidStandup => c.uphW = 1
  | .reacher => vsub (row next.xipos c.fingertip) (row next.xipos c.target) =
                vsub (row next.xpos c.fingertip) (row next.xpos c.target)
  | _ => True

/-- **Same observation, same reward, same termination, for every environment.** -/
theorem mujoco_assembly_eq (f : Fns α) (c : Cfg α) (prev next : Phys α) (a : List α) (e : Env)
    (h : AssemblyHyp c prev next a e) :
    obsL f c next e = obsG f c next e ∧
    (rewardL f c prev next a e).total = (rewardG f c prev next a e).total ∧
    termL c next e = termG c next e := by
  cases e with
  | ant => exact ⟨ant_obs_eq c next, (ant_reward_eq c prev next a h).1, ant_terminated_eq c next h⟩
  | halfCheetah => exact ⟨rfl, rfl, rfl⟩
  | hopper => exact ⟨rfl, (hopper_reward_eq c prev next a h).1, hopper_terminated_eq c next h⟩
  | humanoid => exact ⟨rfl, (humanoid_reward_eq c prev next a h).1, humanoid_terminated_eq c next⟩
  | humanoidStandup => exact ⟨rfl, (humanoidStandup_reward_eq c prev next a h).1, rfl⟩
  | invertedDoublePendulum => exact ⟨rfl, invertedDoublePendulum_reward_eq c prev next a, rfl⟩
  | invertedPendulum =>
      exact ⟨rfl, invertedPendulum_reward_eq c prev next a h, invertedPendulum_terminated_eq c next h⟩
  | pusher => exact ⟨rfl, rfl, rfl⟩
  | reacher => exact ⟨reacher_obs_eq f c next h, (reacher_reward_eq f c prev next a h).1, rfl⟩
  | swimmer => exact ⟨rfl, rfl, rfl⟩
  | walker2d => exact ⟨rfl, rfl, walker2d_terminated_eq c next⟩

/-! ### observation layout: assembled length = declared `obs_size` -/

/-- shape facts about what the simulator hands over (`nq nv nbody` are the model dimensions) -/
structure Shapes (p : Phys α) (nq nv nbody : Nat) : Prop where
  qpos : p.qpos.length = nq
  qvel : p.qvel.length = nv
  cfrc : p.cfrcExt.length = nbody
  cfrcRow : ∀ r ∈ p.cfrcExt, r.length = 6
  cinert : p.cinert.length = nbody
  cinertRow : ∀ r ∈ p.cinert, r.length = 10
  cvel : p.cvel.length = nbody
  cvelRow : ∀ r ∈ p.cvel, r.length = 6
  qfrc : p.qfrcActuator.length = nv
  xposRow : ∀ r ∈ p.xpos, r.length = 3
  xiposRow : ∀ r ∈ p.xipos, r.length = 3
  nxpos : p.xpos.length = nbody
  nxipos : p.xipos.length = nbody

/-- per-environment requirements on the model dimensions (all satisfied by the shipped XML
    models; e.g. the fixed `obs_size = 9` of InvertedDoublePendulum presumes `nq = nv = 3`) -/
def LayoutOK (c : Cfg α) (p : Phys α) (nq nv nbody : Nat) : Env → Prop
  | .ant | .humanoid | .humanoidStandup | .swimmer => 2 ≤ nq
  | .halfCheetah | .hopper | .walker2d => 1 ≤ nq
  | .invertedPendulum => True
  | .invertedDoublePendulum => nq = 3 ∧ nv = 3 ∧ 1 ≤ p.qfrcConstraint.length
  | .reacher => nq = 4 ∧ 2 ≤ nv ∧ c.fingertip < nbody ∧ c.target < nbody
  | .pusher => 7 ≤ nq ∧ 7 ≤ nv ∧ c.tips < nbody ∧ c.object < nbody ∧ c.goal < nbody

section layout
variable {c : Cfg α} {p : Phys α} {nq nv nbody : Nat} (hs : Shapes p nq nv nbody)
include hs

theorem plainObs_length (skip : Nat) (hl : skip ≤ nq) :
    (plainObs skip c p).length = plainObsSize skip c nq nv := by
  rw [plainObs, plainObsSize, posBlock_length (hl.trans_eq hs.qpos.symm), hs.qpos, hs.qvel]

theorem clippedVelObs_length (hl : 1 ≤ nq) :
    (clippedVelObs c p).length = plainObsSize 1 c nq nv := by
  rw [clippedVelObs, plainObsSize, posBlock_length (hl.trans_eq hs.qpos.symm), hs.qpos,
    List.length_map, hs.qvel]

theorem antObs_length (hl : 2 ≤ nq) : (antObsL c p).length = antObsSize c nq nv nbody := by
  have hrow : ∀ r ∈ antClippedForces c p, r.length = 6 :=
    List.forall_mem_map.2 fun r hr => (List.length_map _).trans (hs.cfrcRow r hr)
  simp only [antObsL, antObsSize, List.length_append, posBlock_length (hl.trans_eq hs.qpos.symm),
    apply_ite List.length, List.length_nil, hs.qpos, hs.qvel,
    flat_drop_length _ 6 nbody 1 hrow ((List.length_map _).trans hs.cfrc)]

theorem humanoidObs_length (hl : 2 ≤ nq) :
    (humanoidObsL c p).length = humanoidObsSize c nq nv nbody := by
  simp only [humanoidObsL, humanoidObsSize, List.length_append,
    posBlock_length (hl.trans_eq hs.qpos.symm), apply_ite List.length, List.length_nil, hs.qpos,
    hs.qvel, flat_drop_length _ 10 nbody 1 hs.cinertRow hs.cinert,
    flat_drop_length _ 6 nbody 1 hs.cvelRow hs.cvel, flat_drop_length _ 6 nbody 1 hs.cfrcRow hs.cfrc,
    List.length_drop, hs.qfrc]

end layout

/-- **`obs_layout_length`** — for each of the 11 environments, ALL combinations of the
    observation flags and all model dimensions, the assembled observation has exactly the
    declared `obs_size`. -/
theorem obs_layout_length (f : Fns α) (c : Cfg α) (p : Phys α) (nq nv nbody : Nat) (e : Env)
    (hs : Shapes p nq nv nbody) (hl : LayoutOK c p nq nv nbody e) :
    (obsL f c p e).length = obsSize c nq nv nbody e := by
  cases e with
  | ant => exact antObs_length hs hl
  | halfCheetah => exact plainObs_length hs 1 hl
  | hopper => exact clippedVelObs_length hs hl
  | humanoid => exact humanoidObs_length hs hl
  | humanoidStandup => exact humanoidObs_length hs hl
  | invertedDoublePendulum =>
      obtain ⟨h1, h2, h3⟩ := hl
      simp only [obsL, idpObsL, obsSize, idpObsSizeL, List.length_append, List.length_take,
        List.length_map, List.length_drop, hs.qpos, hs.qvel, h1, h2, Nat.min_eq_left h3]
      -- numerals: `1 + 2 + 2 + 3 + 1 = 9`
      rfl
  | invertedPendulum =>
      simp only [obsL, ipObsL, obsSize, ipObsSizeL, List.length_append, hs.qpos, hs.qvel]
  | pusher =>
      obtain ⟨h1, h2, h3, h4, h5⟩ := hl
      have hr i (hi : i < nbody) := row_length p.xpos 3 i hs.xposRow (hs.nxpos ▸ hi)
      simp only [obsL, pusherObsL, pusherObsOf, obsSize, pusherObsSizeL, List.length_append,
        List.length_take, hs.qpos, hs.qvel, hr _ h3, hr _ h4, hr _ h5, Nat.min_eq_left h1,
        Nat.min_eq_left h2]
  | reacher =>
      obtain ⟨h1, h2, h3, h4⟩ := hl
      simp only [obsL, reacherObsL, obsSize, reacherObsSizeL, vsub, List.length_append,
        List.length_take, List.length_map, List.length_drop, List.length_zipWith, hs.qpos, h1,
        hs.qvel, row_length p.xipos 3 _ hs.xiposRow (hs.nxipos ▸ h3),
        row_length p.xipos 3 _ hs.xiposRow (hs.nxipos ▸ h4), Nat.min_eq_left h2]
      -- numerals: `2 + 2 + 2 + 2 + 2 = 10`
      rfl
  | swimmer => exact plainObs_length hs 2 hl
  | walker2d => exact clippedVelObs_length hs hl

end general

section kin
variable {Q V K A : Type}

theorem simTransition_coherent (FK : Q → V → K) (integ : Q → V → K → A → Q × V) (n : Nat)
    (s : Sim Q V K) (a : A) (h : s.kin = FK s.src.1 s.src.2) :
    (simTransition FK integ n s a).kin =
      FK (simTransition FK integ n s a).src.1 (simTransition FK integ n s a).src.2 := by
  induction n generalizing s with
  | zero => exact h
  | succ n ih => exact ih (subStep FK integ s a) rfl

/-- In every state produced by `initial` or reachable from it by any number
    of transitions (any frame skip, any actions, any integrator), the cached kinematics is the
    forward pass of the state at which it was computed (`src`): never a placeholder.  At a reset
    state `src` is the state itself (`kin_fresh_at_reset`); after a transition it is the state
    before the last sub-step's integration — exactly as in MuJoCo's `mj_step`, which Gymnasium
    uses (`lerax_gym_sim_eq`). -/
theorem kin_coherent (FK : Q → V → K) (integ : Q → V → K → A → Q × V) (frameSkip : Nat)
    (s : Sim Q V K) (h : SimReach FK integ frameSkip s) : s.kin = FK s.src.1 s.src.2 := by
  induction h with
  | init q v => rfl
  | step a _ ih => exact simTransition_coherent FK integ frameSkip _ a ih

/-- at reset the observation / first reward read the kinematics *of the reset state* -/
theorem kin_fresh_at_reset (FK : Q → V → K) (q : Q) (v : V) :
    (simInitial FK q v).kin = FK q v ∧ (simInitial FK q v).src = (q, v) ∧
    (simInitial FK q v).qpos = q ∧ (simInitial FK q v).qvel = v := ⟨rfl, rfl, rfl, rfl⟩

/-- lerax (`initial` + `transition`) and Gymnasium (`set_state` + `mj_step × frame_skip`) are the
    same machine: identical reset draws and actions give identical `(qpos, qvel, kin)`. -/
theorem lerax_gym_sim_eq (FK : Q → V → K) (integ : Q → V → K → A → Q × V) (n : Nat) (q : Q) (v : V)
    (as : List A) :
    as.foldl (simTransition FK integ n) (simInitial FK q v) =
      as.foldl (simTransition FK integ n) (gymReset FK q v) := rfl

/-- the pre-repair `initial()` is incoherent: with `FK q v = q + v + 1` and the zero placeholder
    the cache at reset is not the forward pass of the reset state. -/
theorem legacy_initial_incoherent :
    ∃ (FK : Nat → Nat → Nat) (k0 q v : Nat),
      (LegacySimInitial k0 q v).kin ≠ FK (LegacySimInitial k0 q v).src.1 (LegacySimInitial k0 q v).src.2 :=
  ⟨fun q v => q + v + 1, 0, 0, 0, by decide⟩

/-- After every transition (any frame skip, action, integrator, from any
    state) the cached contact forces are those of the state reached, computed by the post-constraint
    pass; at a reset they are the zero placeholder — on the lerax side exactly as on Gymnasium's
    (`do_simulation` = `mj_step × frame_skip ; mj_rnePostConstraint`). -/
theorem forces_fresh_after_step {F : Type} (FK : Q → V → K) (integ : Q → V → K → A → Q × V)
    (RNE : Q → V → F) (n : Nat) (s : SimF Q V K F) (a : A) :
    (simFTransition FK integ RNE n s a).frc =
      some (RNE (simFTransition FK integ RNE n s a).sim.qpos (simFTransition FK integ RNE n s a).sim.qvel) ∧
    (simFTransition FK integ RNE n s a).sim = simTransition FK integ n s.sim a ∧
    (simFInitial FK s.sim.qpos s.sim.qvel : SimF Q V K F).frc = none := ⟨rfl, rfl, rfl⟩

/-- along every rollout from a reset the forces read by observation / reward after step `t ≥ 1` are the
    forces of that step's state -/
theorem forces_fresh_along_rollout {F : Type} (FK : Q → V → K) (integ : Q → V → K → A → Q × V)
    (RNE : Q → V → F) (n : Nat) (q : Q) (v : V) (as : List A) (hne : as ≠ []) :
    let s := as.foldl (simFTransition FK integ RNE n) (simFInitial FK q v)
    s.frc = some (RNE s.sim.qpos s.sim.qvel) := by
  -- whatever came before, the last transition computed them
  rw [← List.dropLast_concat_getLast hne, List.foldl_append]
  rfl

theorem legacy_forces_foldl {F : Type} (FK : Q → V → K) (integ : Q → V → K → A → Q × V)
    (n : Nat) (as : List A) (s0 : SimF Q V K F) :
    (as.foldl (LegacySimFTransition FK integ n) s0).frc = s0.frc := by
  induction as generalizing s0 with
  | nil => rfl
  | cons a rest ih => exact ih (LegacySimFTransition FK integ n s0 a)

/-- the pre-repair transition never refreshes the forces: from a reset they stay the zero placeholder
    for ever, whatever the contact forces of the states visited are -/
theorem legacy_forces_never_computed {F : Type} (FK : Q → V → K) (integ : Q → V → K → A → Q × V)
    (n : Nat) (q : Q) (v : V) (as : List A) :
    (as.foldl (LegacySimFTransition (F := F) FK integ n) (simFInitial FK q v)).frc = none :=
  legacy_forces_foldl FK integ n as _

end kin

/-! ### pre-repair assembly differs from Gymnasium (witnesses over ℚ) -/

def witnessCfg : Cfg ℚ :=
  { dt := 15 / 1000, timestep := 3 / 1000, fwdW := 1, ctrlW := 1 / 10, contactW := 1 / 2000000,
    healthyR := 5, distW := 1, nearW := 1 / 2, uphW := 1, impactW := 1 / 2000000,
    termUnhealthy := true, exclPos := true, inclCinert := true, inclCvel := true,
    inclQfrc := true, inclCfrc := true, zLo := some 1, zHi := some 2, angLo := none,
    angHi := none, stLo := none, stHi := none, cLo := none, cHi := some 10, bodyMass := [1],
    mainBody := 0, fingertip := 0, target := 0, tips := 0, object := 1, goal := 2 }

def witnessPhys (z : ℚ) (force : ℚ) : Phys ℚ :=
  { qpos := [0, 0, z], qvel := [0, 0, 0], xpos := [[0, 0, 0], [1, 0, 0], [2, 0, 0]],
    xipos := [[1, 0, 0], [1, 0, 0], [2, 0, 0]], cfrcExt := [[force]], cinert := [], cvel := [],
    qfrcActuator := [], qfrcConstraint := [], siteXpos := [], ctrl := [], finite := true }

/-- HumanoidStandup: height 0.3 ⇒ Gymnasium pays 0.3 / 0.003 = 100 (+1), the pre-repair lerax
    0.3 / 0.015 = 20 (+1). -/
theorem legacy_standup_reward_differs :
    (LegacyStandupRewardL witnessCfg (witnessPhys 0 0) (witnessPhys (3 / 10) 0) []).total ≠
      (standupRewardG witnessCfg (witnessPhys 0 0) (witnessPhys (3 / 10) 0) []).total := by
  decide +kernel

example :
    (standupRewardL witnessCfg (witnessPhys 0 0) (witnessPhys (3 / 10) 0) []).total = 101 := by
  decide +kernel

/-- Humanoid: contact force 2000 ⇒ Σf² = 4·10⁶; Gymnasium's cost is min(5·10⁻⁷·Σf², 10) = 2,
    the pre-repair lerax cost 5·10⁻⁷·min(Σf², 10) = 5·10⁻⁶. -/
theorem legacy_humanoid_contact_cost_differs :
    LegacyHumanoidContactCostL witnessCfg (witnessPhys 0 2000) ≠
      humanoidContactCostG witnessCfg (witnessPhys 0 2000) := by
  decide +kernel

example : humanoidContactCostL witnessCfg (witnessPhys 0 2000) = 2 := by
  decide +kernel

/-- Pusher: where the inertial frame of `tips_arm` is offset from the body origin the pre-repair
    observation differs from Gymnasium's. -/
theorem legacy_pusher_obs_differs :
    LegacyPusherObsL witnessCfg (witnessPhys 0 0) ≠ pusherObsG witnessCfg (witnessPhys 0 0) := by
  decide +kernel

/-- the assembled observation on an instance with HalfCheetah-like dimensions (`nq = 3`,
    `nv = 2`, one body, rows of the widths `Shapes` asks for): `qpos[1:] ++ qvel`, 4 = 3 + 2 − 1 -/
example :
    (obsL (α := ℚ) ⟨id, id, id⟩ witnessCfg
      { witnessPhys 1 0 with qvel := [7, 8], cfrcExt := [[0, 0, 0, 0, 0, 0]],
                             cinert := [[0, 0, 0, 0, 0, 0, 0, 0, 0, 0]],
                             cvel := [[0, 0, 0, 0, 0, 0]], qfrcActuator := [0, 0],
                             xpos := [[0, 0, 0]], xipos := [[0, 0, 0]] } .halfCheetah)
      = [0, 1, 7, 8] := by
  decide +kernel

example : SimReach (fun (q v : Nat) => q + v) (fun q v _ (a : Nat) => (q + v, v + a)) 2
    (simTransition (fun (q v : Nat) => q + v) (fun q v _ (a : Nat) => (q + v, v + a)) 2
      (simInitial (fun (q v : Nat) => q + v) 1 2) 5) :=
  .step 5 (.init 1 2)

end Lerax.C17
