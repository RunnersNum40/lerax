/-
  C06 — Replay buffer keeps the most recent transitions and samples only stored ones.

  Theorems about `LeraxModel/Replay.lean` for every capacity `C > 0`, every insertion history
  (any length, any number of wrap-arounds), every number of stacked per-environment buffers
  with arbitrary individual fill levels, and every batch of distinct valid indices.
-/
import LeraxModel.Replay
import LeraxProofs.ListFacts
import LeraxProofs.ReplayAdd
import Mathlib.Data.List.Induction
import Mathlib.Algebra.Order.Field.Basic
import Mathlib.Algebra.BigOperators.Group.List.Basic

namespace Lerax.C06
open Lerax.Replay

variable {ρ : Type}

/-- After inserting `rows` (in order) into an empty buffer of capacity `C`:
    the position counts the insertions, each of the last `C` insertions sits at its residue,
    and slot `j` is unwritten exactly when fewer than `j+1` rows have been inserted. -/
structure Inv (C : Nat) (b : Buf ρ) (rows : List ρ) : Prop where
  pos : b.pos = rows.length
  cap : b.cap = C
  len : b.slots.length = C
  recent : ∀ i (h : i < rows.length), rows.length ≤ i + C → b.slots[i % C]? = some (some rows[i])
  unwritten : ∀ j, j < C → (b.slots[j]? = some none ↔ rows.length ≤ j)

theorem inv_empty (C : Nat) : Inv C (empty C : Buf ρ) [] where
  pos := rfl
  cap := rfl
  len := List.length_replicate
  recent _ h := absurd h (Nat.not_lt_zero _)
  unwritten j hj := iff_of_true (List.getElem?_replicate_of_lt hj) (Nat.zero_le j)

theorem mod_ne_of_window {C i n : Nat} (h1 : i < n) (h2 : n < i + C) : i % C ≠ n % C := by
  intro h
  have hdvd : C ∣ n - i := Nat.dvd_of_mod_eq_zero (Nat.sub_mod_eq_zero_of_mod_eq h.symm)
  have hlt : n - i < C := Nat.sub_lt_left_of_lt_add (Nat.le_of_lt h1) h2
  exact Nat.ne_of_gt (Nat.sub_pos_of_lt h1) (Nat.eq_zero_of_dvd_of_lt hdvd hlt)

theorem inv_add (C : Nat) (hC : 0 < C) (b : Buf ρ) (rows : List ρ) (r : ρ) (h : Inv C b rows) :
    Inv C (add b r) (rows ++ [r]) := by
  have hw : b.pos % b.cap = rows.length % C := by rw [h.pos, h.cap]
  have hidx : b.pos % b.cap < b.slots.length := by rw [hw, h.len]; exact Nat.mod_lt _ hC
  refine { pos := ?_, cap := (add_cap b r).trans h.cap, len := (add_slots_length b r).trans h.len,
           recent := ?_, unwritten := ?_ }
  · rw [add_pos, h.pos, List.length_append, List.length_singleton]
  · intro i hi hwin
    rw [List.length_append, List.length_singleton] at hi hwin
    rcases Nat.lt_succ_iff_lt_or_eq.mp hi with hi' | rfl
    · -- an older row of the window: its slot is not the one written now
      have hne : b.pos % b.cap ≠ i % C := hw ▸ (mod_ne_of_window hi' hwin).symm
      rw [getElem?_add_ne b r hne, h.recent i hi' (Nat.le_of_succ_le hwin),
        List.getElem_append_left hi']
    · rw [← hw, getElem?_add_self b r hidx, List.getElem_concat_length rfl]
  · intro j hj
    rw [List.length_append, List.length_singleton]
    by_cases hjn : b.pos % b.cap = j
    · subst hjn
      rw [getElem?_add_self b r hidx, hw]
      exact iff_of_false nofun (Nat.not_le.mpr (Nat.lt_succ_of_le (Nat.mod_le _ _)))
    · rw [getElem?_add_ne b r hjn, h.unwritten j hj]
      constructor
      · intro hle
        -- `rows.length ≤ j < C`, so the slot written now is `rows.length` itself, and is not `j`
        have hmod : rows.length % C = rows.length := Nat.mod_eq_of_lt (Nat.lt_of_le_of_lt hle hj)
        exact Nat.lt_of_le_of_ne hle (hmod ▸ hw ▸ hjn)
      · exact Nat.le_of_succ_le

/-- the invariant holds after **any** insertion history -/
theorem inv_foldl (C : Nat) (hC : 0 < C) (rows : List ρ) :
    Inv C (rows.foldl add (empty C)) rows := by
  induction rows using List.reverseRec with
  | nil => exact inv_empty C
  | append_singleton rs r ih =>
      rw [List.foldl_append]
      exact inv_add C hC _ rs r ih

/-- a buffer that satisfies the invariant for `rows` holds their last `C` (all of them if fewer) -/
theorem contents_of_inv {C : Nat} {b : Buf ρ} {rows : List ρ} (h : Inv C b rows) :
    contents b = rows.drop (rows.length - C) := by
  -- the last `min n C` of `n` indices start at `n - C`
  have hend := Nat.sub_add_min_cancel rows.length C
  rw [contents_eq, h.pos, h.cap, Nat.sub_eq_of_eq_add hend.symm]
  apply ListFacts.filterMap_range_eq_drop rows _ _ _ hend
  intro i hi
  have hlt : rows.length - C + i < rows.length :=
    Nat.lt_of_lt_of_eq (Nat.add_lt_add_left hi _) hend
  rw [List.getD_eq_getElem?_getD,
    h.recent _ hlt (Nat.le_add_of_sub_le (Nat.le_add_right _ i)),
    Option.getD_some, List.getElem?_eq_getElem hlt]

/-- **After any sequence of insertions a buffer of capacity `C` holds exactly the most recent
    `min(n, C)` transitions** (oldest first), whatever the number of wrap-arounds. -/
theorem contents_lastN (C : Nat) (hC : 0 < C) (rows : List ρ) :
    contents (rows.foldl add (empty C)) = rows.drop (rows.length - C) :=
  contents_of_inv (inv_foldl C hC rows)

theorem slot_atomic_from (rows : List ρ) (b : Buf ρ) (r : ρ)
    (h : some r ∈ (rows.foldl add b).slots) : r ∈ rows ∨ some r ∈ b.slots := by
  induction rows generalizing b with
  | nil => exact Or.inr h
  | cons x xs ih =>
      rcases ih (add b x) h with h' | h'
      · exact Or.inl (List.mem_cons_of_mem _ h')
      · rcases List.mem_or_eq_of_mem_set h' with h'' | h''
        · exact Or.inr h''
        · exact Or.inl (Option.some.inj h'' ▸ List.mem_cons_self)

/-- each stored row is one inserted row with all of its fields (rows are atomic in the model) -/
theorem slot_atomic (C : Nat) (rows : List ρ) (j : Nat) (r : ρ)
    (h : (rows.foldl add (empty C)).slots[j]? = some (some r)) : r ∈ rows :=
  (slot_atomic_from rows (empty C) r (List.mem_of_getElem? h)).resolve_right
    fun h' => nomatch List.eq_of_mem_replicate h'

theorem valid_iff_of_inv {C : Nat} {b : Buf ρ} {rows : List ρ} (h : Inv C b rows) {j : Nat} (hj : j < C) :
    ((validMask b)[j]? = some true ↔ j < min b.pos b.cap) ∧
    ((validMask b)[j]? = some true ↔ ∃ r, b.slots[j]? = some (some r)) := by
  have hm : (validMask b)[j]? = some true ↔ j < min b.pos b.cap := by
    rw [validMask_getElem? b (h.cap.symm ▸ hj), Option.some.injEq, decide_eq_true_iff]
  refine ⟨hm, hm.trans ?_⟩
  -- `j < rows.length` iff slot `j` is not unwritten iff it holds a row
  rw [h.pos, h.cap, Nat.lt_min, and_iff_left hj, ← Nat.not_le, ← h.unwritten j hj]
  simp only [List.getElem?_eq_getElem (h.len ▸ hj), Option.some.injEq]
  exact Option.ne_none_iff_exists'

/-- **The valid mask marks slot `j` iff it has been written iff `j < min(pos, C)`.** -/
theorem valid_iff_written (C : Nat) (hC : 0 < C) (rows : List ρ) (j : Nat) (hj : j < C) :
    let b := rows.foldl add (empty C)
    ((validMask b)[j]? = some true ↔ j < min b.pos b.cap) ∧
    ((validMask b)[j]? = some true ↔ ∃ r, b.slots[j]? = some (some r)) :=
  valid_iff_of_inv (inv_foldl C hC rows) hj

/-! ### stacked per-environment buffers with different fill levels -/

/-- flat index `e * C + j` of the stacked buffers reads mask and slot `j` of environment `e` -/
theorem flat_index (C : Nat) (hC : 0 < C) (histories : List (List ρ)) {e j : Nat}
    (he : e < histories.length) (hj : j < C) :
    let bs := histories.map (fun rows => rows.foldl add (empty C))
    (flatMask bs)[e * C + j]? = (validMask (histories[e].foldl add (empty C)))[j]? ∧
    (flatSlots bs)[e * C + j]? = (histories[e].foldl add (empty C)).slots[j]? := by
  intro bs
  have he' : e < bs.length := (List.length_map _).symm ▸ he
  rw [flatMask_getElem? bs (List.forall_mem_map.mpr fun rows _ => (inv_foldl C hC rows).cap) he' hj,
    flatSlots_getElem? bs (List.forall_mem_map.mpr fun rows _ => (inv_foldl C hC rows).len) he' hj,
    List.getElem_map]
  exact ⟨rfl, rfl⟩

/-- **Joint sampling of stacked buffers**: the flattened mask marks `e·C + j` iff slot `j` of
    environment `e`'s own buffer is written — for different fill levels per environment. -/
theorem flat_valid (C : Nat) (hC : 0 < C) (histories : List (List ρ)) (e j : Nat)
    (he : e < histories.length) (hj : j < C) :
    let bs := histories.map (fun rows => rows.foldl add (empty C))
    ((flatMask bs)[e * C + j]? = some true ↔ ∃ r, (flatSlots bs)[e * C + j]? = some (some r)) ∧
    ((flatMask bs)[e * C + j]? = some true ↔ j < min histories[e].length C) := by
  intro bs
  obtain ⟨hm, hs⟩ := flat_index C hC histories he hj
  have hi := inv_foldl C hC histories[e]
  have hv := valid_iff_of_inv hi hj
  rw [hm, hs]
  exact ⟨hv.2, by rw [hv.1, hi.pos, hi.cap]⟩

/-- a valid flat index `i` reads a stored row: the one in slot `i % C` of environment `i / C` -/
theorem valid_flat_index (C : Nat) (hC : 0 < C) (histories : List (List ρ)) (i : Nat) :
    let bs := histories.map (fun rows => rows.foldl add (empty C))
    (flatMask bs)[i]? = some true →
    ∃ (he : i / C < histories.length) (r : ρ),
      (flatSlots bs).getD i none = some r ∧
      (histories[i / C].foldl add (empty C)).slots[i % C]? = some (some r) := by
  intro bs hv
  obtain ⟨hlt, _⟩ := List.getElem?_eq_some_iff.mp hv
  rw [flatMask_length _ (List.forall_mem_map.mpr fun rows _ => (inv_foldl C hC rows).cap),
    List.length_map] at hlt
  have he : i / C < histories.length := (Nat.div_lt_iff_lt_mul hC).mpr hlt
  have hj : i % C < C := Nat.mod_lt i hC
  obtain ⟨hm, hs⟩ := flat_index C hC histories he hj
  rw [Nat.div_add_mod'] at hm hs
  obtain ⟨r, hr⟩ := (valid_iff_of_inv (inv_foldl C hC histories[i / C]) hj).2.mp (hm ▸ hv)
  refine ⟨he, r, ?_, hr⟩
  rw [List.getD_eq_getElem?_getD, hs, hr, Option.getD_some]

/-- **Sampling a batch of distinct valid indices returns only stored transitions, never an
    unwritten slot, and no transition twice.**  (`jr.choice(replace=False, p=probs)` returning
    distinct indices of non-zero probability is the trusted contract of `jax.random.choice`.) -/
theorem sample_ok (C : Nat) (hC : 0 < C) (histories : List (List ρ)) (idx : List Nat)
    (hvalid : ∀ i ∈ idx, (flatMask (histories.map (fun rows => rows.foldl add (empty C))))[i]? = some true)
    (hnodup : idx.Nodup) :
    (∀ x ∈ take (flatSlots (histories.map (fun rows => rows.foldl add (empty C)))) idx, ∃ r, x = some r) ∧
    idx.Nodup := by
  refine ⟨List.forall_mem_map.mpr fun i hi => ?_, hnodup⟩
  obtain ⟨_, r, hr, _⟩ := valid_flat_index C hC histories i (hvalid i hi)
  exact ⟨r, hr⟩

theorem sum_indicator_div {α : Type} [Field α] (m : List Bool) (c : α) :
    (m.map (fun b => (if b then (1 : α) else 0) / c)).sum = ((m.filter id).length : α) / c := by
  induction m with
  | nil => simp
  | cons b bs ih =>
      cases b with
      | false => simp [ih]
      | true => simp [ih, add_div, add_comm]

section
variable {α : Type} [Field α] [CharZero α]

/-- probabilities vanish exactly on unwritten slots … -/
theorem probs_support (mask : List Bool) (j : Nat) (hj : j < mask.length)
    (hne : (mask.filter id).length ≠ 0) :
    ((probs mask : List α)[j]? = some 0 ↔ mask[j] = false) := by
  simp only [probs, List.getElem?_map, List.getElem?_eq_getElem hj, Option.map_some, Option.some.injEq]
  cases mask[j] <;> simp [hne]

/-- … and sum to one. -/
theorem probs_sum_one (mask : List Bool) (hne : (mask.filter id).length ≠ 0) :
    (probs mask : List α).sum = 1 :=
  (sum_indicator_div mask _).trans (div_self (Nat.cast_ne_zero.mpr hne))

end

/-- The executable checker used on implementation outputs accepts the model's own contents:
    tagging insertion `i` with `i`, the slots after `n` insertions satisfy `phiContents`. -/
theorem phi_contents_sound_example : phiContents 3 7 [some 6, some 4, some 5] = true := by decide

example : contents ([1, 2, 3, 4, 5].foldl add (empty 3 : Buf Nat)) = [3, 4, 5] := by decide

end Lerax.C06
