/-
  Cross-property composition for the reported training statistics (C04 ∘ C19).

  The on-policy `step` hands the logging callback `StepContext(…, done, reward, …)` where `reward` is the
  reward the environment produced for the executed (clipped) action — NOT the value-bootstrapped reward
  that is stored in the rollout buffer.  `callbackSignal` is that pair for one step; `signals` the list of
  pairs along a collected rollout, which is what the statistics of C19 are computed from.
-/
import LeraxProofs.C04
import LeraxProofs.C19
import Mathlib.Algebra.Field.Rat

namespace Lerax.PipelineLog
open Lerax.Env Lerax.OnPolicy Lerax.Logging

section
variable {S A O K PS M α : Type} [Keys K] [Field α]
variable (E : Env S A O α K) (mask : S → K → Option M) (clip : A → A) (P : Policy PS O A M α K) (γ : α)

/-- what `step` passes to `callback.on_step`: (environment reward, done) -/
def callbackSignal (st : StepState S PS) (key : K) : α × Bool :=
  let obs := E.observation st.env (sub key 2)
  let m := mask st.env (sub key 2)
  let a := (P.actionAndValue st.policy obs (sub key 0) m).2.1
  let next := E.transition st.env (clip a) (sub key 1)
  (E.reward st.env (clip a) next (sub key 3), E.terminal next (sub key 4) || E.truncate next)

/-- the signals along a collected rollout -/
def signals : StepState S PS → List K → List (α × Bool)
  | _, [] => []
  | st, k :: ks => callbackSignal E mask clip P st k :: signals (collectStep E mask clip P γ st k).1 ks

/-- **C04.**  The callback sees the environment's own reward for the executed action and the row's done
    flag; the buffer's reward is that reward plus `γ·V(successor observation)` exactly on steps that were
    truncated without terminating. -/
theorem signal_spec (st : StepState S PS) (key : K) :
    let row := (collectStep E mask clip P γ st key).2
    let sig := callbackSignal E mask clip P st key
    let next := E.transition st.env (clip row.action) (sub key 1)
    sig.2 = row.done ∧
    sig.1 = E.reward st.env (clip row.action) next (sub key 3) ∧
    row.reward = sig.1 +
      (if E.truncate next && !E.terminal next (sub key 4) then
        γ * P.value (P.actionAndValue st.policy row.observation (sub key 0) row.mask).1
              (E.observation next (sub key 5)) else 0) := by
  refine ⟨rfl, rfl, ?_⟩
  rw [add_ite, add_zero]
  exact (Lerax.C04.row_faithful E mask clip P γ st key).reward

theorem signals_length (st : StepState S PS) (keys : List K) :
    (signals E mask clip P γ st keys).length = keys.length := by
  induction keys generalizing st with
  | nil => rfl
  | cons k ks ih => exact congrArg Nat.succ (ih _)

/-- the done flags the callback sees are the done flags recorded in the rollout, in order -/
theorem signals_dones (st : StepState S PS) (keys : List K) :
    (signals E mask clip P γ st keys).map Prod.snd =
      (collectRollout E mask clip P γ st keys).2.map (·.done) := by
  induction keys generalizing st with
  | nil => rfl
  | cons k ks ih =>
      rw [C04.collectRollout_cons]
      exact congrArg (List.cons _) (ih _)

/-- **C04 ∘ C19.**  Reported episode statistics after any collected rollout: EMA over the completed
    episodes of the sums of environment rewards (and of the episode lengths); the step counter is the
    number of environment steps. -/
theorem logged_statistics_of_collected_rollout (alpha : α) (st : StepState S PS) (keys : List K) :
    let h := signals E mask clip P γ st keys
    (run alpha h).averageReturn = ema alpha ((episodes h).map Prod.fst) ∧
    (run alpha h).averageLength = ema alpha ((episodes h).map (fun e => ((e.2 : Nat) : α))) ∧
    (run alpha h).step = keys.length := by
  intro h
  obtain ⟨hr, hl, hs⟩ := Lerax.C19.log_history alpha h
  exact ⟨hr, hl, hs.trans (signals_length E mask clip P γ st keys)⟩

end

/-! ### non-vacuity: a time-limited episode whose logged return excludes the bootstrap -/

instance : Keys Nat := ⟨fun k i => k + i⟩

/-- counts up, pays 1 per step, truncates at 2, never terminates; the critic says 10 everywhere -/
def qEnv : Env Nat Nat Nat ℚ Nat where
  initial _ := 0
  transition s _ _ := s + 1
  observation s _ := s
  reward _ _ _ _ := 1
  terminal _ _ := false
  truncate s := decide (2 ≤ s)

def qPolicy : Policy Unit Nat Nat Unit ℚ Nat where
  actionAndValue _ _ _ _ := ((), 0, 10, 0)
  evaluate _ _ _ _ := (10, 0)
  value _ _ := 10
  reset _ := ()

example :
    (signals qEnv (fun _ _ => none) id qPolicy (1 : ℚ) ⟨0, ()⟩ [1, 2, 3, 4]) =
      [(1, false), (1, true), (1, false), (1, true)] ∧
    ((collectRollout qEnv (fun _ _ => none) id qPolicy (1 : ℚ) ⟨0, ()⟩ [1, 2, 3, 4]).2.map (·.reward)) =
      [1, 11, 1, 11] ∧
    (run (1 / 2 : ℚ) (signals qEnv (fun _ _ => none) id qPolicy (1 : ℚ) ⟨0, ()⟩ [1, 2, 3, 4])).averageReturn = 3 / 2 := by
  decide +kernel

end Lerax.PipelineLog
