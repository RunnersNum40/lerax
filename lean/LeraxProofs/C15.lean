/-
  C15 — Action distributions are coherent probability laws (discrete laws).

  Theorems about `LeraxModel/Dist.lean` (lerax's `Categorical`, `Bernoulli`, `MultiCategorical`
  and the distreqx formulas they delegate to) over any linearly ordered field with `exp`/`log`
  satisfying `ExpLog` (`expLog_real` for ℝ), for all lengths, parameter vectors, points and noise.
  Extended vectors are read with `getD · none`, as `Cat.logProb` reads them.  A law built by either
  constructor is in normal form (`Cat.Normal`): its probabilities are `exp` of its logits and sum to
  one; the `_normal` theorems are proved from that and the logit-form and probability-form statements are
  their instances.  The continuous laws are in `C15Cont.lean`; the one algebraic fact about the
  normal law that `C16` needs without the measure-theory imports stands at the end of this file.
-/
import LeraxModel.Dist
import LeraxProofs.ListFacts
import Mathlib.Data.List.GetD
import Mathlib.Algebra.Order.Field.Basic
import Mathlib.Algebra.BigOperators.Group.List.Basic
import Mathlib.Algebra.Order.BigOperators.Group.List
import Mathlib.Analysis.SpecialFunctions.Log.Basic

namespace Lerax.C15
open Lerax.Dist

set_option linter.unusedSectionVars false

variable {α : Type} [Field α] [LinearOrder α] [IsStrictOrderedRing α]

/-- the facts about `exp` and `log` that the theorems use -/
structure ExpLog (exp log : α → α) : Prop where
  pos : ∀ x, 0 < exp x
  add : ∀ a b, exp (a + b) = exp a * exp b
  exp_log : ∀ x, 0 < x → exp (log x) = x
  log_exp : ∀ x, log (exp x) = x
  mono : ∀ a b, a ≤ b → exp a ≤ exp b

theorem expLog_real : ExpLog Real.exp Real.log :=
  ⟨Real.exp_pos, Real.exp_add, fun _ h => Real.exp_log h, Real.log_exp,
   fun _ _ h => Real.exp_le_exp.mpr h⟩

variable {exp log : α → α}

section explog
variable (E : ExpLog exp log)
include E

theorem ExpLog.zero : exp 0 = 1 := by
  have h := E.add 0 0
  rw [add_zero] at h
  exact (mul_eq_left₀ (E.pos 0).ne').mp h.symm

theorem ExpLog.sub (a b : α) : exp (a - b) = exp a / exp b := by
  have h := E.add (a - b) b
  rw [sub_add_cancel] at h
  rw [h, mul_div_assoc, div_self (ne_of_gt (E.pos b)), mul_one]

theorem ExpLog.neg (a : α) : exp (-a) = 1 / exp a := by
  have h := E.sub 0 a
  rw [zero_sub, E.zero] at h
  exact h

theorem ExpLog.log_one : log 1 = 0 := by
  rw [← E.zero, E.log_exp]

end explog

theorem map_range_eq_of_getD {β : Type} (l : List β) (d : β) (f : Nat → β)
    (hf : ∀ v, f v = l.getD v d) : (List.range l.length).map f = l :=
  List.ext_getElem (by simp) fun i h1 h2 => by
    rw [List.getElem_map, List.getElem_range, hf, List.getD_eq_getElem l d h2]

theorem sum_map_div {β : Type} (f : β → α) (s : α) (l : List β) :
    (l.map (fun x => f x / s)).sum = (l.map f).sum / s := by
  simp only [div_eq_mul_inv]
  exact List.sum_map_mul_right (l := l) (f := f) (r := s⁻¹)

theorem sum_flatMap {β γ : Type} (l : List β) (f : β → List γ) (g : γ → α) :
    ((l.flatMap f).map g).sum = (l.map (fun x => ((f x).map g).sum)).sum := by
  rw [List.map_flatMap, List.flatMap_def, List.sum_flatten, List.map_map]
  rfl

theorem getD_mem_or {β : Type} (l : List β) (i : Nat) (d : β) : l.getD i d ∈ l ∨ l.getD i d = d := by
  rw [List.getD_eq_getElem?_getD]
  cases h : l[i]? with
  | none => right; rfl
  | some x => left; exact List.mem_of_getElem? h

theorem lt_length_of_getD_ne {β : Type} (l : List β) (i : Nat) (d : β) (h : l.getD i d ≠ d) :
    i < l.length :=
  not_le.mp fun hle => h (List.getD_eq_default l d hle)

/-- the range guard of `Cat.prob` / `Cat.logProb` is what `getD` does anyway -/
theorem getD_guard {β : Type} (l : List β) (d : β) (n v : Nat) (hn : l.length = n) :
    (if (v : Int) < 0 ∨ (n : Int) ≤ v then d else l.getD (v : Int).toNat d) = l.getD v d := by
  split
  · exact (List.getD_eq_default l d (by omega)).symm
  · rfl

section argmax
variable {β : Type} (lt : β → β → Bool)

theorem argmaxV_cons (x y : β) (ys : List β) :
    argmaxV lt x (y :: ys) =
      if lt x (argmaxV lt y ys).2 then ((argmaxV lt y ys).1 + 1, (argmaxV lt y ys).2) else (0, x) :=
  rfl

theorem argmaxV_get (x : β) (xs : List β) :
    (x :: xs)[(argmaxV lt x xs).1]? = some (argmaxV lt x xs).2 := by
  induction xs generalizing x with
  | nil => rfl
  | cons y ys ih =>
      rw [argmaxV_cons]
      split
      · exact ih y
      · rfl

/-- every entry strictly before the returned index is strictly smaller: it is the *first* maximum -/
theorem argmaxV_first (x : β) (xs : List β) (j : Nat) (hj : j < (argmaxV lt x xs).1) :
    ∃ w, (x :: xs)[j]? = some w ∧ lt w (argmaxV lt x xs).2 = true := by
  induction xs generalizing x j with
  | nil => exact absurd hj (Nat.not_lt_zero j)
  | cons y ys ih =>
      rw [argmaxV_cons] at hj ⊢
      split_ifs at hj ⊢ with h
      · cases j with
        | zero => exact ⟨x, rfl, h⟩
        | succ j => exact ih y j (Nat.lt_of_succ_lt_succ hj)
      · exact absurd hj (Nat.not_lt_zero j)

-- `lt` is asymmetric and negatively transitive, e.g. the strict part of a linear order
variable (hasym : ∀ a b, lt a b = true → lt b a = false)
  (hnt : ∀ a b c, lt a b = false → lt b c = false → lt a c = false)
include hasym hnt

theorem argmaxV_max (x : β) (xs : List β) : ∀ w ∈ x :: xs, lt (argmaxV lt x xs).2 w = false := by
  have hirr : ∀ w, lt w w = false := fun w =>
    Bool.eq_false_iff.mpr fun h => Bool.eq_false_iff.mp (hasym w w h) h
  induction xs generalizing x with
  | nil => exact List.forall_mem_cons.mpr ⟨hirr x, fun _ h => nomatch h⟩
  | cons y ys ih =>
      rw [argmaxV_cons]
      split_ifs with h
      · exact List.forall_mem_cons.mpr ⟨hasym _ _ h, ih y⟩
      · -- `x` is not below the tail's maximum, which is not below any `w` of the tail (`hnt`)
        exact List.forall_mem_cons.mpr
          ⟨hirr x, fun w hw => hnt _ _ _ (Bool.eq_false_iff.mpr h) (ih y w hw)⟩

/-- `argmax` in the form the laws use it: the entry read at the returned index (with any
    default) is exceeded by no entry -/
theorem argmax_max (l : List β) (d w : β) (hw : w ∈ l) : lt (l.getD (argmax lt l) d) w = false := by
  match l, hw with
  | y :: ys, hw =>
      rw [List.getD_eq_getElem?_getD]
      show lt (((y :: ys)[(argmaxV lt y ys).1]?).getD d) w = false
      rw [argmaxV_get]
      exact argmaxV_max lt hasym hnt y ys w hw

end argmax

theorem elt_asymm : ∀ (a b : Option α), elt a b = true → elt b a = false
  | none, some _, _ => rfl
  | some _, some _, h => decide_eq_false (lt_asymm (of_decide_eq_true h))

theorem elt_negtrans : ∀ (a b c : Option α), elt a b = false → elt b c = false → elt a c = false
  | none, none, none, _, _ => rfl
  | some _, _, none, _, _ => rfl
  | some a, some b, some c, h1, h2 =>
      have hba : b ≤ a := not_lt.mp (of_decide_eq_false h1)
      have hcb : c ≤ b := not_lt.mp (of_decide_eq_false h2)
      decide_eq_false (hcb.trans hba).not_gt

/-- a list of extended numbers with at least one finite entry -/
def HasFinite (l : List (Option α)) : Prop := ∃ x, some x ∈ l

theorem hasFinite_iff_getD (L : List (Option α)) :
    HasFinite L ↔ ∃ (i : Nat) (x : α), L.getD i none = some x := by
  unfold HasFinite
  simp only [List.mem_iff_getElem?, List.getD_eq_getElem?_getD, Option.getD_eq_iff, reduceCtorEq,
    and_false, or_false]
  exact exists_comm

theorem argmax_elt_finite (l : List (Option α)) (h : HasFinite l) :
    ∃ x, l.getD (argmax elt l) none = some x := by
  obtain ⟨x, hx⟩ := h
  have hmax := argmax_max elt elt_asymm elt_negtrans l none (some x) hx
  cases hv : l.getD (argmax elt l) none with
  | none => rw [hv] at hmax; cases hmax
  | some v => exact ⟨v, rfl⟩

section softmax

theorem logSoftmax_def (l : List (Option α)) :
    logSoftmax exp log l = l.map (fun x => x.map (· - log (sumExp exp l))) := rfl

theorem softmax_def (l : List (Option α)) :
    softmax exp l = l.map (fun x => eexp exp x / sumExp exp l) := rfl

theorem softmax_of_sumExp_one (L : List (Option α)) (h : sumExp exp L = 1) :
    softmax exp L = L.map (eexp exp) := by
  rw [softmax_def, h]
  exact List.map_congr_left fun x _ => div_one _

theorem hasFinite_logSoftmax (l : List (Option α)) (h : HasFinite l) :
    HasFinite (logSoftmax exp log l) := by
  obtain ⟨x, hx⟩ := h
  exact ⟨x - log (sumExp exp l), List.mem_map.mpr ⟨some x, hx, rfl⟩⟩

theorem logSoftmax_getD (L : List (Option α)) (i : Nat) :
    (logSoftmax exp log L).getD i none = (L.getD i none).map (· - log (sumExp exp L)) :=
  List.getD_map L none (Option.map (· - log (sumExp exp L)))

variable (E : ExpLog exp log)
include E

theorem eexp_nonneg (x : Option α) : 0 ≤ eexp exp x := by
  cases x with
  | none => exact le_refl _
  | some x => exact le_of_lt (E.pos x)

theorem sumExp_pos (l : List (Option α)) (h : HasFinite l) : 0 < sumExp exp l := by
  obtain ⟨x, hx⟩ := h
  have hnn : ∀ y ∈ l.map (eexp exp), 0 ≤ y := List.forall_mem_map.mpr fun z _ => eexp_nonneg E z
  exact lt_of_lt_of_le (E.pos x) (List.single_le_sum hnn _ (List.mem_map.mpr ⟨some x, hx, rfl⟩))

theorem eexp_shift (x : Option α) (z : α) : eexp exp (x.map (· - z)) = eexp exp x / exp z := by
  cases x with
  | none => simp [eexp]
  | some x => simp [eexp, E.sub]

theorem eexp_logE (q : α) (hq : 0 ≤ q) : eexp exp (logE log q) = q := by
  unfold logE
  split_ifs with h
  · exact E.exp_log q h
  · exact le_antisymm hq (not_lt.mp h)

theorem sumExp_shift (l : List (Option α)) (z : α) :
    sumExp exp (l.map (fun x => x.map (· - z))) = sumExp exp l / exp z := by
  unfold sumExp
  rw [List.map_map, ← sum_map_div]
  exact congrArg List.sum (List.map_congr_left fun x _ => eexp_shift E x z)

theorem sumExp_logSoftmax (l : List (Option α)) (h : HasFinite l) :
    sumExp exp (logSoftmax exp log l) = 1 := by
  have hp := sumExp_pos E l h
  rw [logSoftmax_def, sumExp_shift E, E.exp_log _ hp, div_self hp.ne']

theorem logSoftmax_of_sumExp_one (L : List (Option α)) (h : sumExp exp L = 1) :
    logSoftmax exp log L = L := by
  rw [logSoftmax_def, h, E.log_one]
  refine List.map_id'' (fun x => ?_) L
  cases x with
  | none => rfl
  | some x => exact congrArg some (sub_zero x)

theorem logSoftmax_idem (l : List (Option α)) (h : HasFinite l) :
    logSoftmax exp log (logSoftmax exp log l) = logSoftmax exp log l :=
  logSoftmax_of_sumExp_one E _ (sumExp_logSoftmax E l h)

theorem softmax_shift (l : List (Option α)) (z : α) :
    softmax exp (l.map (fun x => x.map (· - z))) = softmax exp l := by
  rw [softmax_def, softmax_def, sumExp_shift E, List.map_map]
  exact List.map_congr_left fun x _ => by
    rw [Function.comp_apply, eexp_shift E, div_div_div_cancel_right₀ (E.pos z).ne']

/-- (`E` is not needed) -/
theorem length_softmax (L : List (Option α)) : (softmax exp L).length = L.length := by
  simp [softmax]

theorem softmax_logSoftmax (l : List (Option α)) :
    softmax exp (logSoftmax exp log l) = softmax exp l := softmax_shift E l _

theorem softmax_sum (l : List (Option α)) (h : HasFinite l) : (softmax exp l).sum = 1 := by
  rw [softmax_def, sum_map_div, ← sumExp, div_self (sumExp_pos E l h).ne']

end softmax

/-- a valid parameter of the probability form: non-negative entries, positive total -/
def ValidProbs (p : List α) : Prop := (∀ x ∈ p, 0 ≤ x) ∧ 0 < p.sum

theorem normalizeProbs_nonneg (p : List α) (h : ValidProbs p) : ∀ x ∈ normalizeProbs p, 0 ≤ x :=
  List.forall_mem_map.mpr fun y hy => div_nonneg (h.1 y hy) h.2.le

theorem normalizeProbs_sum (p : List α) (h : ValidProbs p) : (normalizeProbs p).sum = 1 := by
  show (p.map (fun x => x / p.sum)).sum = 1
  rw [sum_map_div (fun x => x), List.map_id', div_self h.2.ne']

theorem exists_pos_of_sum_pos (p : List α) (h : 0 < p.sum) : ∃ x ∈ p, 0 < x := by
  simpa using List.exists_lt_of_sum_lt (l := p) (fun _ => (0 : α)) id (by simpa using h)

/-- a categorical law in normal form: what the two constructors produce from valid parameters -/
def Cat.Normal (exp : α → α) : Cat α → Prop
  | .logits L => HasFinite L ∧ sumExp exp L = 1
  | .probs q => (∀ x ∈ q, 0 ≤ x) ∧ q.sum = 1

section categorical

theorem ofProbs_normal (p : List α) (h : ValidProbs p) : Cat.Normal exp (Cat.ofProbs p) :=
  ⟨normalizeProbs_nonneg p h, normalizeProbs_sum p h⟩

theorem ofLogits_n (l : List (Option α)) : (Cat.ofLogits exp log l).n = l.length :=
  List.length_map _

theorem ofProbs_n (p : List α) : (Cat.ofProbs p).n = p.length := List.length_map _

theorem length_getProbs (c : Cat α) : (c.getProbs exp).length = c.n := by
  cases c with
  | logits L => exact List.length_map _
  | probs q => rfl

theorem length_getLogits (c : Cat α) : (c.getLogits log).length = c.n := by
  cases c with
  | logits L => rfl
  | probs q => exact List.length_map _

theorem prob_nat (c : Cat α) (v : Nat) : c.prob exp (v : Int) = (c.getProbs exp).getD v 0 :=
  getD_guard _ 0 c.n v (length_getProbs c)

theorem logProb_nat (c : Cat α) (v : Nat) : c.logProb log (v : Int) = (c.getLogits log).getD v none :=
  getD_guard _ none c.n v (length_getLogits c)

theorem probTable (c : Cat α) :
    (List.range c.n).map (fun v : Nat => c.prob exp (v : Int)) = c.getProbs exp := by
  rw [← length_getProbs (exp := exp) c]
  exact map_range_eq_of_getD _ 0 _ (prob_nat c)

theorem logProbTable (c : Cat α) :
    (List.range c.n).map (fun v : Nat => c.logProb log (v : Int)) = c.getLogits log := by
  rw [← length_getLogits (log := log) c]
  exact map_range_eq_of_getD _ none _ (logProb_nat c)

theorem prob_mem_or (c : Cat α) (v : Int) : c.prob exp v ∈ c.getProbs exp ∨ c.prob exp v = 0 := by
  unfold Cat.prob
  split
  · exact Or.inr rfl
  · exact getD_mem_or _ _ 0

theorem prob_outside (c : Cat α) (v : Int) (h : v < 0 ∨ (c.n : Int) ≤ v) :
    c.prob exp v = 0 ∧ c.logProb log v = none :=
  ⟨if_pos h, if_pos h⟩

theorem entTerm_eq_mnn (x : Option α) : entTerm exp x = mnn x (eexp exp x) := by
  cases x <;> rfl

variable (E : ExpLog exp log)
include E

theorem ofLogits_normal (l : List (Option α)) (h : HasFinite l) :
    Cat.Normal exp (Cat.ofLogits exp log l) :=
  ⟨hasFinite_logSoftmax l h, sumExp_logSoftmax E l h⟩

theorem getProbs_eq_map (c : Cat α) (hc : Cat.Normal exp c) :
    c.getProbs exp = (c.getLogits log).map (eexp exp) := by
  cases c with
  | logits L => exact softmax_of_sumExp_one L hc.2
  | probs q =>
      show q = (q.map (logE log)).map (eexp exp)
      rw [List.map_map]
      exact (List.map_id q).symm.trans
        (List.map_congr_left fun x hx => (eexp_logE E x (hc.1 x hx)).symm)

/-- **`prob = exp(log_prob)`** at every integer point (inside or outside the support), for a
    categorical law built from any logit vector with a finite entry or any valid probability vector -/
theorem prob_eq_exp_logprob_normal (c : Cat α) (hc : Cat.Normal exp c) (v : Int) :
    c.prob exp v = eexp exp (c.logProb log v) := by
  unfold Cat.prob Cat.logProb
  split
  · rfl
  · rw [getProbs_eq_map E c hc]
    exact List.getD_map _ none (eexp exp)

theorem prob_eq_exp_logprob (l : List (Option α)) (h : HasFinite l) (v : Int) :
    (Cat.ofLogits exp log l).prob exp v = eexp exp ((Cat.ofLogits exp log l).logProb log v) :=
  prob_eq_exp_logprob_normal E _ (ofLogits_normal E l h) v

theorem prob_eq_exp_logprob_probs (p : List α) (h : ValidProbs p) (v : Int) :
    (Cat.ofProbs p).prob exp v = eexp exp ((Cat.ofProbs p).logProb log v) :=
  prob_eq_exp_logprob_normal E _ (ofProbs_normal p h) v

theorem getProbs_sum (c : Cat α) (hc : Cat.Normal exp c) : (c.getProbs exp).sum = 1 := by
  cases c with
  | logits L => rw [getProbs_eq_map E _ hc]; exact hc.2
  | probs q => exact hc.2

theorem mass_one_normal (c : Cat α) (hc : Cat.Normal exp c) :
    ((List.range c.n).map (fun v : Nat => c.prob exp (v : Int))).sum = 1 := by
  rw [probTable]
  exact getProbs_sum E c hc

/-- **the probabilities over the support sum to one** (logit form) -/
theorem categorical_mass_one (l : List (Option α)) (h : HasFinite l) :
    ((List.range l.length).map
      (fun v : Nat => (Cat.ofLogits exp log l).prob exp (v : Int))).sum = 1 := by
  rw [← ofLogits_n (exp := exp) (log := log) l]
  exact mass_one_normal E _ (ofLogits_normal E l h)

/-- **the probabilities over the support sum to one** (probability form) -/
theorem categorical_mass_one_probs (p : List α) (h : ValidProbs p) :
    ((List.range p.length).map (fun v : Nat => (Cat.ofProbs p).prob exp (v : Int))).sum = 1 := by
  rw [← ofProbs_n p]
  exact mass_one_normal E _ (ofProbs_normal (exp := exp) p h)

theorem entropy_eq_sum_entTerm (c : Cat α) (hc : Cat.Normal exp c) :
    c.entropy exp log = -((c.getLogits log).map (entTerm exp)).sum := by
  cases c with
  | logits L =>
      show -((logSoftmax exp log L).map (entTerm exp)).sum = _
      rw [logSoftmax_of_sumExp_one E L hc.2]
      rfl
  | probs q => rfl

/-- **entropy `= −Σ_v p(v)·log p(v)`** with the convention `0·log 0 = 0` (`mnn none _ = 0`) -/
theorem entropy_eq_neg_expect_log_normal (c : Cat α) (hc : Cat.Normal exp c) :
    c.entropy exp log =
      -((List.range c.n).map (fun v : Nat => mnn (c.logProb log (v : Int)) (c.prob exp (v : Int)))).sum := by
  rw [entropy_eq_sum_entTerm E c hc, ← logProbTable (log := log) c, List.map_map]
  congr 2
  apply List.map_congr_left
  intro v _
  show entTerm exp (c.logProb log v) = _
  rw [prob_eq_exp_logprob_normal E c hc, entTerm_eq_mnn]

theorem entropy_eq_neg_expect_log (l : List (Option α)) (h : HasFinite l) :
    (Cat.ofLogits exp log l).entropy exp log =
      -((List.range l.length).map (fun v : Nat =>
          mnn ((Cat.ofLogits exp log l).logProb log (v : Int))
              ((Cat.ofLogits exp log l).prob exp (v : Int)))).sum := by
  rw [← ofLogits_n (exp := exp) (log := log) l]
  exact entropy_eq_neg_expect_log_normal E _ (ofLogits_normal E l h)

theorem entropy_eq_neg_expect_log_probs (p : List α) (h : ValidProbs p) :
    (Cat.ofProbs p).entropy exp log =
      -((List.range p.length).map (fun v : Nat =>
          mnn ((Cat.ofProbs p).logProb log (v : Int)) ((Cat.ofProbs p).prob exp (v : Int)))).sum := by
  rw [← ofProbs_n p]
  exact entropy_eq_neg_expect_log_normal E _ (ofProbs_normal (exp := exp) p h)

/-- a point of log-probability `-∞` has probability zero (so the convention in the entropy is
    `0·log 0 = 0`) -/
theorem prob_zero_of_logprob_none (c : Cat α) (hc : Cat.Normal exp c) (v : Int)
    (h : c.logProb log v = none) : c.prob exp v = 0 := by
  rw [prob_eq_exp_logprob_normal E c hc v, h]; rfl

theorem prob_pos_of_logprob_some (c : Cat α) (hc : Cat.Normal exp c) (v : Int) (x : α)
    (h : c.logProb log v = some x) : 0 < c.prob exp v := by
  rw [prob_eq_exp_logprob_normal E c hc v, h]; exact E.pos x

end categorical

theorem addNoise_getD : ∀ (L : List (Option α)) (g : List α) (i : Nat),
    (addNoise L g).getD i none = (L.getD i none).map (· + g.getD i 0)
  | [], _, _ => rfl
  | none :: _, [], 0 => rfl
  | some x :: _, [], 0 => congrArg some (add_zero x).symm
  | _ :: _, _ :: _, 0 => rfl
  | _ :: ls, [], i + 1 => addNoise_getD ls [] i
  | _ :: ls, _ :: gs, i + 1 => addNoise_getD ls gs i

theorem addNoise_length (L : List (Option α)) (g : List α) : (addNoise L g).length = L.length := by
  induction L generalizing g with
  | nil => simp [addNoise]
  | cons l ls ih => cases g <;> simp [addNoise, ih]

theorem hasFinite_addNoise (L : List (Option α)) (g : List α) (h : HasFinite L) :
    HasFinite (addNoise L g) := by
  rw [hasFinite_iff_getD] at h ⊢
  obtain ⟨i, x, hx⟩ := h
  exact ⟨i, x + g.getD i 0, by rw [addNoise_getD, hx]; rfl⟩

section support

theorem logProb_some_lt (c : Cat α) (v : Nat) (x : α) (h : c.logProb log (v : Int) = some x) :
    v < c.n := by
  rw [logProb_nat] at h
  rw [← length_getLogits (log := log) c]
  exact lt_length_of_getD_ne _ _ none (by rw [h]; exact Option.some_ne_none x)

theorem hasFinite_getLogits (c : Cat α) (hc : Cat.Normal exp c) : HasFinite (c.getLogits log) := by
  cases c with
  | logits L => exact hc.1
  | probs q =>
      obtain ⟨x, hx, hx0⟩ := exists_pos_of_sum_pos q (hc.2 ▸ zero_lt_one)
      exact ⟨log x, List.mem_map.mpr ⟨x, hx, if_pos hx0⟩⟩

/-- **a sample lies in the support, whatever the noise**: it is an index `< n` whose
    log-probability is finite (probability non-zero) -/
theorem sample_in_support_of_finite (c : Cat α) (h : HasFinite (c.getLogits log)) (noise : List α) :
    c.sample log noise < c.n ∧ ∃ x, c.logProb log (c.sample log noise : Int) = some x := by
  obtain ⟨y, hy⟩ := argmax_elt_finite _ (hasFinite_addNoise _ noise h)
  rw [addNoise_getD] at hy
  obtain ⟨x, hx, _⟩ := Option.map_eq_some_iff.mp hy
  have hlp : c.logProb log (c.sample log noise : Int) = some x := (logProb_nat c _).trans hx
  exact ⟨logProb_some_lt c _ x hlp, x, hlp⟩

/-- `sample_and_log_prob` returns the log-probability of the very sample it returns -/
theorem cat_sample_and_logprob_consistent (c : Cat α) (noise : List α) :
    (c.sampleAndLogProb log noise).2 = c.logProb log ((c.sampleAndLogProb log noise).1 : Int) := rfl

variable (E : ExpLog exp log)
include E

theorem sample_in_support (c : Cat α) (hc : Cat.Normal exp c) (noise : List α) :
    c.sample log noise < c.n ∧ 0 < c.prob exp (c.sample log noise : Int) := by
  obtain ⟨h1, x, hx⟩ := sample_in_support_of_finite c (hasFinite_getLogits (log := log) c hc) noise
  exact ⟨h1, prob_pos_of_logprob_some E c hc _ x hx⟩

theorem eexp_mono : ∀ (a b : Option α), elt a b = false → eexp exp b ≤ eexp exp a
  | none, none, _ => le_refl _
  | some _, none, _ => le_of_lt (E.pos _)
  | some _, some _, h => E.mono _ _ (not_lt.mp (of_decide_eq_false h))

theorem getProbs_le_mode (c : Cat α) (hc : Cat.Normal exp c) :
    ∀ p ∈ c.getProbs exp, p ≤ (c.getProbs exp).getD c.mode 0 := by
  cases c with
  | logits L =>
      rw [getProbs_eq_map E _ hc]
      exact List.forall_mem_map.mpr fun w hw =>
        (eexp_mono E _ _ (argmax_max elt elt_asymm elt_negtrans L none w hw)).trans_eq
          (List.getD_map L none (eexp exp)).symm
  | probs q =>
      intro p hp
      -- `flt a b` is `elt (some a) (some b)` by definition
      exact not_lt.mp (of_decide_eq_false (argmax_max flt (fun a b => elt_asymm (some a) (some b))
        (fun a b c => elt_negtrans (some a) (some b) (some c)) q 0 p hp))

/-- **the mode lies in the support and no point is more probable** -/
theorem mode_in_support (c : Cat α) (hc : Cat.Normal exp c) :
    c.mode < c.n ∧ 0 < c.prob exp (c.mode : Int) ∧ ∀ v : Int, c.prob exp v ≤ c.prob exp (c.mode : Int) := by
  have hmax := getProbs_le_mode E c hc
  -- the total mass is one, so some entry is positive, hence so is the largest
  obtain ⟨p, hp, hp0⟩ := exists_pos_of_sum_pos (c.getProbs exp)
    ((getProbs_sum E c hc).symm ▸ zero_lt_one)
  have hpos : 0 < (c.getProbs exp).getD c.mode 0 := lt_of_lt_of_le hp0 (hmax p hp)
  rw [prob_nat]
  refine ⟨?_, hpos, fun v => ?_⟩
  · rw [← length_getProbs (exp := exp) c]
    exact lt_length_of_getD_ne _ _ 0 (ne_of_gt hpos)
  · rcases prob_mem_or c v with h | h
    · exact hmax _ h
    · rw [h]; exact le_of_lt hpos

end support

/-- valid Bernoulli parameter: any (extended) logit, or a probability in `[0,1]` -/
def BernValid : Bern α → Prop
  | .ofLogit _ => True
  | .ofProb p => 0 ≤ p ∧ p ≤ 1

theorem half_pos : (0 : α) < half := by
  unfold half
  rw [one_add_one_eq_two]
  exact one_half_pos

theorem half_lt_iff (p : α) : half < p ↔ 1 - p < p := by
  unfold half
  rw [div_lt_iff₀ (by norm_num : (0 : α) < 1 + 1), mul_add, mul_one, sub_lt_iff_lt_add]

section bernoulli

/-- **Bernoulli: the two probabilities sum to one** -/
theorem bernoulli_mass_one (b : Bern α) : b.prob exp false + b.prob exp true = 1 :=
  sub_add_cancel 1 _

/-- the mode is a most probable outcome -/
theorem bernoulli_mode_most_probable (b : Bern α) :
    b.prob exp (!b.mode exp) ≤ b.prob exp (b.mode exp) := by
  unfold Bern.mode
  by_cases h : (half : α) < b.p1 exp
  · rw [decide_eq_true h]
    exact le_of_lt ((half_lt_iff _).mp h)
  · rw [decide_eq_false h]
    exact not_lt.mp (mt (half_lt_iff _).mpr h)

/-- with `q0_eq` below (which needs `E`): the probabilities as `_probs_and_log_probs` computes them
    for the entropy are `prob` -/
theorem q1_eq : ∀ b : Bern α, b.q1 exp = b.prob exp true
  | .ofLogit none => rfl
  | .ofLogit (some _) => rfl
  | .ofProb p => sub_sub_cancel 1 p

variable (E : ExpLog exp log)
include E

theorem sigmoid_pos (x : α) : 0 < sigmoid exp x :=
  one_div_pos.mpr (add_pos zero_lt_one (E.pos _))

theorem sigmoid_neg (x : α) : sigmoid exp (-x) = 1 - sigmoid exp x := by
  -- with `e = exp x`: `1 + 1/e = (e+1)/e`, so `σ x = e/(e+1)` and `1 − σ x = (e+1−e)/(e+1)`
  unfold sigmoid
  rw [neg_neg, E.neg, one_add_div (E.pos x).ne', one_div_div,
    one_sub_div (add_pos (E.pos x) zero_lt_one).ne', add_sub_cancel_left, add_comm]

theorem sigmoid_lt_one (x : α) : sigmoid exp x < 1 :=
  sub_pos.mp (sigmoid_neg E x ▸ sigmoid_pos E (-x))

/-- `exp(−softplus x) = 1/(1 + exp x)`, which is `σ(−x)` as `sigmoid` is defined -/
theorem exp_neg_softplus (x : α) : exp (-(softplus exp log x)) = sigmoid exp (-x) := by
  unfold softplus sigmoid
  rw [neg_neg, E.neg, E.exp_log _ (add_pos zero_lt_one (E.pos x))]

/-- **Bernoulli: `prob = exp(log_prob)`** for both outcomes -/
theorem bernoulli_prob_eq_exp_logprob (b : Bern α) (hb : BernValid b) (v : Bool) :
    b.prob exp v = eexp exp (b.logProb exp log v) := by
  cases b with
  | ofLogit l =>
      cases l with
      | none =>
          cases v
          · exact (sub_zero (1 : α)).trans E.zero.symm
          · rfl
      | some x =>
          cases v
          · exact ((exp_neg_softplus E x).trans (sigmoid_neg E x)).symm
          · exact ((exp_neg_softplus E (-x)).trans (congrArg _ (neg_neg x))).symm
  | ofProb p =>
      cases v
      · exact (eexp_logE E _ (sub_nonneg.mpr hb.2)).symm
      · exact (eexp_logE E _ hb.1).symm

theorem q0_eq : ∀ b : Bern α, b.q0 exp = b.prob exp false
  | .ofLogit none => (sub_zero (1 : α)).symm
  | .ofLogit (some x) => sigmoid_neg E x
  | .ofProb _ => rfl

/-- **Bernoulli: entropy `= −Σ_v p(v) log p(v)`** (with `0·log 0 = 0`) -/
theorem bernoulli_entropy_eq_neg_expect_log (b : Bern α) :
    b.entropy exp log = -(mnn (b.logProb exp log false) (b.prob exp false)
                          + mnn (b.logProb exp log true) (b.prob exp true)) := by
  unfold Bern.entropy
  rw [q0_eq E, q1_eq]
  rfl

/-- **a Bernoulli sample has non-zero probability** for every uniform draw `u ∈ [0,1)`
    (`E` is not needed) -/
theorem bernoulli_sample_in_support (b : Bern α) (u : α) (h0 : 0 ≤ u) (h1 : u < 1) :
    0 < b.prob exp (b.sample exp u) := by
  unfold Bern.sample
  by_cases h : u < b.p1 exp
  · rw [decide_eq_true h]
    exact lt_of_le_of_lt h0 h
  · rw [decide_eq_false h]
    exact sub_pos.mpr (lt_of_le_of_lt (not_lt.mp h) h1)

/-- the mean is the probability of `1` (`E` is not needed) -/
theorem bernoulli_mean (b : Bern α) : b.mean exp = b.prob exp true := rfl

end bernoulli

theorem splitBy_flatten {β : Type} (pieces : List (List β)) :
    splitBy (pieces.map List.length) pieces.flatten = pieces := by
  induction pieces with
  | nil => rfl
  | cons p ps ih => simp [splitBy, ih]

/-- conversely every flat parameter of length `Σ dims` is the concatenation of its pieces, whose
    lengths are `dims` -/
theorem splitBy_spec {β : Type} (dims : List Nat) (flat : List β) (h : flat.length = dims.sum) :
    (splitBy dims flat).flatten = flat ∧ (splitBy dims flat).map List.length = dims := by
  induction dims generalizing flat with
  | nil =>
      simp only [List.sum_nil, List.length_eq_zero_iff] at h
      subst h; simp [splitBy]
  | cons d ds ih =>
      simp only [List.sum_cons] at h
      have := ih (flat.drop d) (by simp [h])
      simp only [splitBy, List.flatten_cons, List.map_cons, this.1, this.2, List.take_append_drop,
        true_and]
      rw [List.length_take, Nat.min_eq_left (by omega)]

/-- every value vector of a product space with sizes `dims` -/
def tuples : List Nat → List (List Nat)
  | [] => [[]]
  | d :: ds => (List.range d).flatMap (fun v => (tuples ds).map (v :: ·))

section multicat

/-- **both constructors give the same law, for every split** -/
theorem flat_eq_sequence (pieces : List (List (Option α))) :
    MultiCat.ofLogitsFlat exp log (pieces.map List.length) pieces.flatten
      = MultiCat.ofLogitsSeq exp log pieces := by
  simp [MultiCat.ofLogitsFlat, splitBy_flatten]

theorem flat_eq_sequence_probs (pieces : List (List α)) :
    MultiCat.ofProbsFlat (pieces.map List.length) pieces.flatten = MultiCat.ofProbsSeq pieces := by
  simp [MultiCat.ofProbsFlat, splitBy_flatten]

/-- the components of the flat-form law are the categoricals of the pieces, and its
    `action_dims` are the given ones -/
theorem ofLogitsFlat_dims (dims : List Nat) (flat : List (Option α)) (h : flat.length = dims.sum) :
    (MultiCat.ofLogitsFlat exp log dims flat).dims = dims := by
  have := (splitBy_spec dims flat h).2
  simp only [MultiCat.ofLogitsFlat, MultiCat.ofLogitsSeq, MultiCat.dims, List.map_map]
  conv_rhs => rw [← this]
  exact List.map_congr_left fun x _ => ofLogits_n x

theorem logProbs_eq_zipWith (mc : MultiCat α) (vs : List Int) :
    mc.logProbs log vs = List.zipWith (fun c v => Cat.logProb log c v) mc vs :=
  ListFacts.eq_zipWith_of_eqns (fun _ _ _ _ => rfl) (fun _ => rfl) (fun _ _ => rfl) mc vs

set_option linter.unusedVariables false in
/-- **log-probability of a product law = sum over the components** (the length hypothesis is not
    needed: both sides truncate alike) -/
theorem multicat_logprob_sum (mc : MultiCat α) (vs : List Int) (h : vs.length = mc.length) :
    mc.logProb log vs = esum (List.zipWith (fun c v => Cat.logProb log c v) mc vs) := by
  rw [MultiCat.logProb, logProbs_eq_zipWith]

/-- **entropy of a product law = sum over the components** -/
theorem multicat_entropy_sum (mc : MultiCat α) :
    mc.entropy exp log = (mc.map (fun c => c.entropy exp log)).sum := rfl

theorem multicat_logprob_cons (c : Cat α) (cs : MultiCat α) (v : Int) (vs : List Int) :
    MultiCat.logProb log (c :: cs) (v :: vs) = eadd (c.logProb log v) (MultiCat.logProb log cs vs) := rfl

variable (E : ExpLog exp log)
include E

theorem eexp_eadd (a b : Option α) : eexp exp (eadd a b) = eexp exp a * eexp exp b := by
  cases a <;> cases b <;> simp [eadd, eexp, E.add]

theorem multicat_prob_cons (c : Cat α) (hc : Cat.Normal exp c) (cs : MultiCat α) (v : Int)
    (vs : List Int) :
    MultiCat.prob exp log (c :: cs) (v :: vs) = c.prob exp v * MultiCat.prob exp log cs vs := by
  unfold MultiCat.prob
  rw [multicat_logprob_cons, eexp_eadd E, ← prob_eq_exp_logprob_normal E c hc v]

theorem multicat_prob_nil (vs : List Int) : MultiCat.prob exp log [] vs = 1 := by
  cases vs <;> exact E.zero

theorem multicat_prob_prod (mc : MultiCat α) (hmc : ∀ c ∈ mc, Cat.Normal exp c) (vs : List Int)
    (h : vs.length = mc.length) :
    mc.prob exp log vs = (List.zipWith (fun c v => Cat.prob exp c v) mc vs).prod := by
  induction mc, vs, h using ListFacts.list_induction₂ with
  | nil => exact multicat_prob_nil E []
  | cons c v cs vs _ ih =>
      rw [multicat_prob_cons E c (hmc c List.mem_cons_self) cs v vs,
        ih fun c hc => hmc c (List.mem_cons_of_mem _ hc)]
      rfl

/-- **total mass of a product law**: the probabilities of all value vectors sum to one -/
theorem multicat_mass_one (mc : MultiCat α) (hmc : ∀ c ∈ mc, Cat.Normal exp c) :
    ((tuples mc.dims).map (fun t => mc.prob exp log (t.map Int.ofNat))).sum = 1 := by
  induction mc with
  | nil => exact (add_zero _).trans (multicat_prob_nil E _)
  | cons c cs ih =>
      have hc := hmc c List.mem_cons_self
      have ih' := ih (fun c hc => hmc c (List.mem_cons_of_mem _ hc))
      -- `Σ_{v::t} p(v::t) = Σ_v p_c(v)·Σ_t p_cs(t) = Σ_v p_c(v)·1`
      rw [← mass_one_normal E c hc]
      show (((List.range c.n).flatMap fun v => (tuples (MultiCat.dims cs)).map (v :: ·)).map _).sum = _
      rw [sum_flatMap]
      congr 1
      refine List.map_congr_left fun v _ => ?_
      rw [List.map_map, ← mul_one (c.prob exp v), ← ih', ← List.sum_map_mul_left]
      exact congrArg List.sum (List.map_congr_left fun t _ => multicat_prob_cons E c hc cs _ _)

end multicat

theorem allZip_iff_forall₂ {β γ : Type} (f : β → γ → Bool) : ∀ (xs : List β) (ys : List γ),
    allZip f xs ys = true ↔ List.Forall₂ (fun x y => f x y = true) xs ys
  | [], [] => iff_of_true rfl .nil
  | [], _ :: _ | _ :: _, [] => iff_of_false Bool.false_ne_true nofun
  | x :: xs, y :: ys => by
      rw [List.forall₂_cons, ← allZip_iff_forall₂ f xs ys]
      exact Bool.and_eq_true_iff

theorem allZip_map {β γ δ : Type} (f : γ → δ → Bool) (g : β → γ) (h : β → δ) (l : List β)
    (hl : ∀ x ∈ l, f (g x) (h x) = true) : allZip f (l.map g) (l.map h) = true := by
  rw [allZip_iff_forall₂, List.forall₂_map_left_iff, List.forall₂_map_right_iff, List.forall₂_same]
  exact hl

theorem allZip_self_map {β γ : Type} (f : β → γ → Bool) (g : β → γ) (l : List β)
    (h : ∀ x ∈ l, f x (g x) = true) : allZip f l (l.map g) = true := by
  simpa using allZip_map f id g l h

section phi
variable (E : ExpLog exp log)
include E

/-- every clause of `phiTable` holds for the tables of a categorical law in normal form -/
theorem phiTable_model (c : Cat α) (hc : Cat.Normal exp c) (outs : List Int)
    (ho : ∀ v ∈ outs, v < 0 ∨ (c.n : Int) ≤ v) :
    ∀ cl ∈ phiTable exp (fun a b => decide (a = b))
        ((List.range c.n).map (fun v : Nat => c.prob exp (v : Int)))
        ((List.range c.n).map (fun v : Nat => c.logProb log (v : Int)))
        (outs.map (c.prob exp)) (outs.map (c.logProb log)) (c.entropy exp log), cl.2 = true := by
  intro cl hcl
  simp only [phiTable, List.mem_cons, List.mem_nil_iff, or_false] at hcl
  rcases hcl with rfl | rfl | rfl | rfl
  · exact allZip_map _ _ _ _ fun v _ => decide_eq_true (prob_eq_exp_logprob_normal E c hc v)
  · refine allZip_map _ _ _ _ fun v hv => ?_
    obtain ⟨h1, h2⟩ := prob_outside (exp := exp) (log := log) c v (ho v hv)
    exact Bool.and_eq_true_iff.mpr ⟨decide_eq_true h1, by rw [h2]; rfl⟩
  · simp only [decide_eq_true_eq]
    exact mass_one_normal E c hc
  · simp only [decide_eq_true_eq]
    rw [entropy_eq_neg_expect_log_normal E c hc]
    congr 2
    simp [List.zipWith_map_left, List.zipWith_map_right, List.zipWith_self]

/-- `phiMode` holds for the model's mode -/
theorem phiMode_model (c : Cat α) (hc : Cat.Normal exp c) :
    phiMode (fun a b => decide (a ≤ b))
      ((List.range c.n).map (fun v : Nat => c.prob exp (v : Int))) (c.mode : Int) = true := by
  obtain ⟨h1, h2, _⟩ := mode_in_support E c hc
  rw [prob_nat] at h2
  rw [probTable]
  simp only [phiMode, Int.toNat_natCast, Bool.and_eq_true, decide_eq_true_eq, length_getProbs,
    List.all_eq_true, flt]
  exact ⟨⟨⟨Int.natCast_nonneg _, h1⟩, h2⟩, getProbs_le_mode E c hc⟩

/-- `inSupport` holds for every sample of the model, whatever the noise (`E` is not needed) -/
theorem inSupport_sample_model (c : Cat α) (hc : Cat.Normal exp c) (noise : List α) :
    inSupport ((List.range c.n).map (fun v : Nat => c.logProb log (v : Int)))
      (c.sample log noise : Int) = true := by
  obtain ⟨h1, x, hx⟩ := sample_in_support_of_finite c (hasFinite_getLogits (log := log) c hc) noise
  rw [logProb_nat] at hx
  rw [logProbTable]
  simp only [inSupport, Int.toNat_natCast, hx, Bool.and_eq_true, decide_eq_true_eq,
    length_getLogits, Option.isSome_some, and_true]
  exact ⟨Int.natCast_nonneg _, h1⟩

end phi

/-- standardising the sample `σ z + μ` gives the noise back -/
theorem sample_sub_div (s z m : α) (hs : s ≠ 0) : (s * z + m - m) / s = z := by
  rw [add_sub_cancel_right, mul_div_cancel_left₀ z hs]

/-- `sample_and_log_prob` of the normal law returns the log-density of the returned sample
    (over any field, for `C16`; the statements over `ℝ` are in `C15Cont.lean`) -/
theorem normal_sampleAndLogProb_eq (c : α) (d : Normal α) (hσ : d.scale ≠ 0) (z : α) :
    (d.sampleAndLogProb log c z).2 = d.logProb log c (d.sampleAndLogProb log c z).1 := by
  show negHalfSq z - c - log d.scale
    = negHalfSq ((d.scale * z + d.loc - d.loc) / d.scale) - (c + log d.scale)
  rw [sample_sub_div _ z _ hσ, sub_sub]

example : HasFinite [some (0 : ℝ), none, some 2] := ⟨0, by simp⟩

example : ((List.range 3).map (fun v : Nat =>
    (Cat.ofLogits Real.exp Real.log [some (0 : ℝ), none, some 2]).prob Real.exp (v : Int))).sum = 1 :=
  categorical_mass_one expLog_real [some 0, none, some 2] ⟨0, by simp⟩

example : ValidProbs [(1 : ℝ), 0, 3] := ⟨by simp, by norm_num⟩

example : (Cat.ofProbs [(1 : ℝ), 0, 3]).prob Real.exp (2 : Int) = 3 / 4 := by
  show (3 : ℝ) / (1 + (0 + (3 + 0))) = 3 / 4
  norm_num

example : splitBy [2, 1] [(1 : ℝ), 2, 3] = [[1, 2], [3]] := by simp [splitBy]

example : tuples [2, 2] = [[0, 0], [0, 1], [1, 0], [1, 1]] := by decide

end Lerax.C15
