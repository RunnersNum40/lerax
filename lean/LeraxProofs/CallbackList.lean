/-
  CallbackList (C11 / C19): an aggregate of observers is an observer, and every member's state evolves
  exactly as if that member were the only callback (given the sub-key of its position) — the members
  cannot see or disturb one another, whatever they compute.
-/
import LeraxModel.CallbackList
import LeraxProofs.C11

namespace Lerax.CallbackList
open Lerax.Env Lerax.Learn

variable {Core Cb K : Type} [Keys K]

theorem zipIdx_eq_map (f : Callbacks Core Cb K → Cb → K → Cb) (ms : List (Callbacks Core Cb K)) (sts : List Cb)
    (key : K) (start : Nat) :
    zipIdx f ms sts key start = ((ms.zip sts).zipIdx start).map fun p => f p.1.1 p.1.2 (sub key p.2) := by
  induction ms generalizing sts start with
  | nil => rfl
  | cons m ms ih =>
      cases sts with
      | nil => rfl
      | cons s sts => exact congrArg (_ :: ·) (ih sts (start + 1))

theorem zipIdx_length (f : Callbacks Core Cb K → Cb → K → Cb) (ms : List (Callbacks Core Cb K)) (sts : List Cb)
    (key : K) (start : Nat) : (zipIdx f ms sts key start).length = min ms.length sts.length := by
  rw [zipIdx_eq_map, List.length_map, List.length_zipIdx, List.length_zip]

/-- position `i` of the aggregate hook is member `i`'s hook on member `i`'s state and the `i`-th sub-key;
    nothing else enters (no length hypotheses: `zip` truncation is part of the statement) -/
theorem zipIdx_get (f : Callbacks Core Cb K → Cb → K → Cb) (ms : List (Callbacks Core Cb K))
    (sts : List Cb) (key : K) (start i : Nat) :
    (zipIdx f ms sts key start)[i]? =
      (ms[i]?).bind (fun m => (sts[i]?).map (fun s => f m s (sub key (start + i)))) := by
  -- position `i` of `map`, of `zipIdx` and of `zip = zipWith Prod.mk`; what is left is `Option.map` pushed
  -- through `bind`
  simp only [zipIdx_eq_map, List.getElem?_map, List.getElem?_zipIdx, List.zip, List.getElem?_zipWith',
    Option.map_map, Option.map_bind, Option.bind_map, Function.comp_def]

/-- changing another member's state does not change member `i`'s result (isolation of one hook call) -/
theorem zipIdx_ignores_others (f : Callbacks Core Cb K → Cb → K → Cb) (ms : List (Callbacks Core Cb K))
    (sts sts' : List Cb) (key : K) (i : Nat) (h : sts[i]? = sts'[i]?) :
    (zipIdx f ms sts key 0)[i]? = (zipIdx f ms sts' key 0)[i]? := by
  rw [zipIdx_get, zipIdx_get, h]

theorem initIdx_get (core : Core) (ms : List (Callbacks Core Cb K)) (key : K) (start i : Nat) :
    (initIdx core ms key start)[i]? = (ms[i]?).map (fun m => m.init core (sub key (start + i))) := by
  induction ms generalizing start i with
  | nil => rfl
  | cons m ms ih =>
      cases i with
      | zero => rfl
      -- `ih` one position on has sub-key `start + 1 + i`; the goal's `start + (i + 1)` is `start + i + 1` by `rfl`
      | succ i => exact Nat.add_right_comm start 1 i ▸ ih (start + 1) i

/-- the joint invariant: same core, and position `i` of the aggregate state is the solo state
    (`Sim.Rel fun sts s => sts[i]? = some s` written out, so `Sim.learn_rel` proves it as it stands) -/
def Rel (i : Nat) (s : Core × List Cb) (s' : Core × Cb) : Prop := s.1 = s'.1 ∧ s.2[i]? = some s'.2

/-- position `i` of the aggregate simulates member `i` run alone on the `i`-th sub-keys -/
theorem sim_atPos {ms : List (Callbacks Core Cb K)} {i : Nat} {m : Callbacks Core Cb K}
    (hm : ms[i]? = some m) : Sim (listCallbacks ms) (atPos i m) fun sts s => sts[i]? = some s := by
  -- the four hooks of `listCallbacks` and `atPos` differ only in the member function `sel` they call
  have hook (sel : Callbacks Core Cb K → Core → Cb → K → Cb) {sts : List Cb} {s : Cb} (hs : sts[i]? = some s)
      (c : Core) (k : K) : (zipIdx (fun m => sel m c) ms sts k 0)[i]? = some (sel m c s (sub k i)) := by
    rw [zipIdx_get, hm, hs, Nat.zero_add]
    rfl  -- `bind` and `map` of a `some` compute
  refine ⟨fun c k => ?_, hook Callbacks.onStep, hook Callbacks.onIteration, hook Callbacks.onTrainingStart,
    hook Callbacks.onTrainingEnd⟩
  show (initIdx c ms k 0)[i]? = _
  rw [initIdx_get, hm, Nat.zero_add]
  rfl  -- `map` of a `some` computes; `(atPos i m).init c k` is `m.init c (sub k i)` by definition

/-- **Every member of a `CallbackList` evolves as if it were alone.**  For any members (any hook
    functions), any position `i`, any number of iterations and steps: after `learn`, position `i` of the
    aggregate callback state is exactly the state member `i` reaches when it is the only callback and
    draws the `i`-th sub-key of each callback key; and the core (policy, environments, optimiser, buffers)
    is the same in both runs. -/
theorem member_evolves_alone (reset : K → Core) (coreStep : Core → K → Core) (train : Core → K → Core)
    (numSteps numIters : Nat) (ms : List (Callbacks Core Cb K)) (i : Nat) (m : Callbacks Core Cb K)
    (hm : ms[i]? = some m) (key : K) :
    Rel i (learn reset coreStep train numSteps numIters (listCallbacks ms) key)
          (learn reset coreStep train numSteps numIters (atPos i m) key) :=
  (sim_atPos hm).learn_rel reset coreStep train numSteps numIters key

/-- corollary: the other members are irrelevant to member `i` — two lists that agree at position `i`
    give member `i` the same final state, whatever else they contain (and however long they are) -/
theorem member_independent_of_others (reset : K → Core) (coreStep : Core → K → Core) (train : Core → K → Core)
    (numSteps numIters : Nat) (ms ms' : List (Callbacks Core Cb K)) (i : Nat) (m : Callbacks Core Cb K)
    (hm : ms[i]? = some m) (hm' : ms'[i]? = some m) (key : K) :
    (learn reset coreStep train numSteps numIters (listCallbacks ms) key).2[i]? =
      (learn reset coreStep train numSteps numIters (listCallbacks ms') key).2[i]? := by
  rw [(member_evolves_alone reset coreStep train numSteps numIters ms i m hm key).2,
      (member_evolves_alone reset coreStep train numSteps numIters ms' i m hm' key).2]

/-- corollary: an aggregate of observers is an observer (instance of `C11.observer_noninterference`) -/
theorem list_is_observer {Cb' : Type} (reset : K → Core) (coreStep : Core → K → Core) (train : Core → K → Core)
    (numSteps numIters : Nat) (ms : List (Callbacks Core Cb K)) (cb' : Callbacks Core Cb' K) (key : K) :
    (learn reset coreStep train numSteps numIters (listCallbacks ms) key).1 =
      (learn reset coreStep train numSteps numIters cb' key).1 :=
  Lerax.C11.observer_noninterference reset coreStep train numSteps numIters _ cb' key

/-- the aggregate keeps one state per member (the list neither grows nor shrinks) -/
theorem list_state_length (ms : List (Callbacks Core Cb K)) (core : Core) (sts : List Cb) (key : K)
    (h : sts.length = ms.length) :
    ((listCallbacks ms).onStep core sts key).length = ms.length ∧
    ((listCallbacks ms).onIteration core sts key).length = ms.length := by
  simp [listCallbacks, zipIdx_length, h]

theorem continueAll_iff (flags : List Bool) : continueAll flags = true ↔ ∀ b ∈ flags, b = true := by
  simp [continueAll]

/-! non-vacuity: two counting members with different increments in one list; each reaches its solo value -/
def counter (inc : Nat) : Callbacks Nat Nat Nat :=
  { init := fun _ _ => 0, onStep := fun c n _ => n + inc * c, onIteration := fun _ n _ => n + 1,
    onTrainingStart := fun _ n _ => n, onTrainingEnd := fun _ n _ => n }

example : (learn (fun k => k) (fun c k => c + k) (fun c _ => 2 * c) 3 2
      (listCallbacks [counter 1, counter 5]) 5).2 =
    [(learn (fun k => k) (fun c k => c + k) (fun c _ => 2 * c) 3 2 (atPos 0 (counter 1)) 5).2,
     (learn (fun k => k) (fun c k => c + k) (fun c _ => 2 * c) 3 2 (atPos 1 (counter 5)) 5).2] ∧
    (learn (fun k => k) (fun c k => c + k) (fun c _ => 2 * c) 3 2 (listCallbacks [counter 1, counter 5]) 5).2
      ≠ [0, 0] := by decide

end Lerax.CallbackList
