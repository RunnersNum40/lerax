/-
  Simulation between two runs of `learn` that differ only in their observers: if a relation between
  the two callback states holds after `init` and is kept by every hook (shown the same core and key),
  the runs have equal cores and related callback states.  `R := fun _ _ => True` gives observer
  non-interference (C11); `R sts s := sts[i]? = some s` gives the `CallbackList` member theorem.
-/
import LeraxModel.Learn

namespace Lerax.Learn
open Lerax.Env

variable {Core Cb Cb' K : Type} (cb : Callbacks Core Cb K) (cb' : Callbacks Core Cb' K) (R : Cb → Cb' → Prop)

/-- `R` survives a pair of hooks shown the same core and key -/
def Keeps (f : Core → Cb → K → Cb) (f' : Core → Cb' → K → Cb') : Prop :=
  ∀ {a b}, R a b → ∀ c k, R (f c a k) (f' c b k)

/-- `R` is a simulation between the observers `cb` and `cb'` -/
structure Sim : Prop where
  init : ∀ c k, R (cb.init c k) (cb'.init c k)
  onStep : Keeps R cb.onStep cb'.onStep
  onIteration : Keeps R cb.onIteration cb'.onIteration
  onTrainingStart : Keeps R cb.onTrainingStart cb'.onTrainingStart
  onTrainingEnd : Keeps R cb.onTrainingEnd cb'.onTrainingEnd

/-- same core, related callback states -/
def Sim.Rel (s : Core × Cb) (s' : Core × Cb') : Prop := s.1 = s'.1 ∧ R s.2 s'.2

variable {cb cb' R} {s : Core × Cb} {s' : Core × Cb'}

theorem Sim.trivial : Sim cb cb' fun _ _ => True :=
  ⟨fun _ _ => True.intro, fun h _ _ => h, fun h _ _ => h, fun h _ _ => h, fun h _ _ => h⟩

/-- the shape of `step`, `iteration` and the end of `learn`: update the core, then show it to a hook -/
theorem Sim.Rel.hook {f : Core → Cb → K → Cb} {f' : Core → Cb' → K → Cb'} (hf : Keeps R f f')
    (g : Core → Core) (k : K) (hs : Sim.Rel R s s') :
    Sim.Rel R (g s.1, f (g s.1) s.2 k) (g s'.1, f' (g s'.1) s'.2 k) :=
  ⟨congrArg g hs.1, hs.1 ▸ hf hs.2 _ k⟩

variable [Keys K] (h : Sim cb cb' R) (reset : K → Core) (coreStep train : Core → K → Core)
include h

theorem Sim.rollout_rel (keys : List K) (hs : Sim.Rel R s s') :
    Sim.Rel R (keys.foldl (step coreStep cb) s) (keys.foldl (step coreStep cb') s') :=
  List.foldl_rel hs fun k _ _ _ hs => hs.hook h.onStep (coreStep · k) (sub k 8)

theorem Sim.iteration_rel (n : Nat) (hs : Sim.Rel R s s') (key : K) :
    Sim.Rel R (iteration coreStep train n cb s key) (iteration coreStep train n cb' s' key) :=
  (h.rollout_rel coreStep _ hs).hook h.onIteration (train · (sub key 1)) (sub key 2)

theorem Sim.learn_rel (numSteps numIters : Nat) (key : K) :
    Sim.Rel R (learn reset coreStep train numSteps numIters cb key)
      (learn reset coreStep train numSteps numIters cb' key) :=
  -- related after `init` and `on_training_start`; kept by every iteration; kept by `on_training_end`
  have h0 : Sim.Rel R (reset (sub key 1), cb.onTrainingStart _ (cb.init _ (sub key 1)) (sub key 0))
      (reset (sub key 1), cb'.onTrainingStart _ (cb'.init _ (sub key 1)) (sub key 0)) :=
    ⟨rfl, h.onTrainingStart (h.init _ _) _ _⟩
  have hN := List.foldl_rel (l := (List.range numIters).map fun i => sub (sub key 2) i) h0
    fun k _ _ _ hs => h.iteration_rel coreStep train numSteps hs k
  hN.hook h.onTrainingEnd id (sub key 3)

end Lerax.Learn
