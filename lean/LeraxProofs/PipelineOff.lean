/-
  Cross-property composition for the off-policy algorithms (C05 ∘ C06 ∘ C07): for any environment,
  policy, capacity, number of environments, per-environment collection histories (any lengths,
  any number of ring wrap-arounds) and any batch of distinct valid indices, each sampled
  transition is one that really happened in the environment whose buffer it came from, and its
  TD target bootstraps exactly when that step did not terminate.
-/
import LeraxProofs.C05
import LeraxProofs.C06
import LeraxProofs.C07

namespace Lerax.PipelineOff
open Lerax.Env Lerax.Replay Lerax.OffPolicy Lerax.Td

section replay
variable {ρ : Type}

/-- **C06, strengthened.**  A valid flat index `i` of the stacked buffers holds a transition that was
    inserted into environment `i / C`'s own buffer. -/
theorem sampled_row_was_inserted (C : Nat) (hC : 0 < C) (histories : List (List ρ)) (i : Nat)
    (hv : (flatMask (histories.map (fun rows => rows.foldl add (empty C))))[i]? = some true) :
    ∃ (he : i / C < histories.length) (r : ρ),
      (flatSlots (histories.map (fun rows => rows.foldl add (empty C)))).getD i none = some r ∧
      r ∈ histories[i / C] := by
  obtain ⟨he, r, hr, hslot⟩ := Lerax.C06.valid_flat_index C hC histories i hv
  exact ⟨he, r, hr, Lerax.C06.slot_atomic C histories[i / C] (i % C) r hslot⟩

end replay

section offpolicy
variable {S A O K PS α : Type} [Keys K]
variable (E : Env S A O α K) (clip : A → A) (P : Policy PS O A K)

/-- **C05.**  Every produced transition is the `stepRow` of some state, policy state and key. -/
theorem produced_row_origin (env : S) (ps : PS) (keys : List K) :
    ∀ row ∈ producedRows E clip P env ps keys,
      ∃ (env' : S) (ps' : PS) (k : K), k ∈ keys ∧ row = (stepRow E clip P env' ps' k).2.2 := by
  induction keys generalizing env ps with
  | nil => nofun
  | cons k ks ih =>
      rw [C05.producedRows_cons, List.forall_mem_cons]
      refine ⟨⟨env, ps, k, List.mem_cons_self, rfl⟩, fun row h => ?_⟩
      obtain ⟨env', ps', k', hk', hrow⟩ := ih _ _ row h
      exact ⟨env', ps', k', List.mem_cons_of_mem _ hk', hrow⟩

end offpolicy

section td
variable {S A O K PS α : Type} [Keys K] [Field α] [LinearOrder α] [IsStrictOrderedRing α]
variable (E : Env S A O α K) (clip : A → A) (P : Policy PS O A K)

/-- `step` stores `done = terminal ∨ truncate` and `timeout = truncate ∧ ¬terminal`: from these
    flags C07's `terminated` recovers `terminal` … -/
theorem terminated_of_flags (terminal truncate : Bool) :
    C07.terminated (terminal || truncate) (truncate && !terminal) = terminal := by
  cases terminal <;> cases truncate <;> rfl

/-- … so the target bootstraps unless `terminal` -/
theorem tdTarget_of_flags (γ r v : α) (terminal truncate : Bool) :
    tdTarget γ r v (terminal || truncate) (truncate && !terminal) =
      r + (if terminal then 0 else γ * v) := by
  rw [C07.target_formula, terminated_of_flags]
  cases terminal <;> simp [ofBool]

/-- **C05 ∘ C07.**  The TD target built from the transition that `step` stores: the reward of the
    executed (clipped) action, plus `γ·V'` unless the environment *terminated* on that step —
    truncation alone (time limit) keeps the bootstrap, termination drops it even when the step was
    truncated as well. -/
theorem stepRow_td_target (γ v : α) (env : S) (ps : PS) (key : K) :
    let row := (stepRow E clip P env ps key).2.2
    let a := (P.act ps (E.observation env (sub key 2)) (sub key 0)).2
    let next := E.transition env (clip a) (sub key 1)
    tdTarget γ row.reward v row.done row.timeout =
      E.reward env (clip a) next (sub key 3) +
        (if E.terminal next (sub key 4) then 0 else γ * v) :=
  tdTarget_of_flags γ _ v _ _

/-- **C05 ∘ C06 ∘ C07.**  Collect any histories in any number of environments (per-environment
    buffers of capacity `C`, any number of wrap-arounds), sample any batch of distinct valid flat
    indices: every sampled entry is a transition that really happened in the environment whose
    buffer it came from, and its TD target is `r(executed action) + γ·V'` unless that step
    terminated, in which case it is `r` alone. -/
theorem sampled_targets_respect_termination (C : Nat) (hC : 0 < C)
    (starts : List (S × PS × List K)) (idx : List Nat) (γ v : α)
    (hvalid : ∀ i ∈ idx,
      (flatMask ((starts.map (fun s => producedRows E clip P s.1 s.2.1 s.2.2)).map
        (fun rows => rows.foldl add (empty C))))[i]? = some true) :
    ∀ x ∈ take (flatSlots ((starts.map (fun s => producedRows E clip P s.1 s.2.1 s.2.2)).map
        (fun rows => rows.foldl add (empty C)))) idx,
      ∃ (row : Row PS O A α) (env : S) (ps : PS) (key : K),
        x = some row ∧ row = (stepRow E clip P env ps key).2.2 ∧
        tdTarget γ row.reward v row.done row.timeout =
          E.reward env (clip (P.act ps (E.observation env (sub key 2)) (sub key 0)).2)
              (E.transition env (clip (P.act ps (E.observation env (sub key 2)) (sub key 0)).2) (sub key 1))
              (sub key 3) +
            (if E.terminal
                (E.transition env (clip (P.act ps (E.observation env (sub key 2)) (sub key 0)).2) (sub key 1))
                (sub key 4) then 0 else γ * v) := by
  refine List.forall_mem_map.mpr fun i hi => ?_
  obtain ⟨he, r, hr, hmem⟩ := sampled_row_was_inserted C hC _ i (hvalid i hi)
  rw [List.getElem_map] at hmem
  obtain ⟨env, ps, key, _, hrow⟩ := produced_row_origin E clip P _ _ _ r hmem
  exact ⟨r, env, ps, key, hr, hrow, hrow ▸ stepRow_td_target E clip P γ v env ps key⟩

end td

/-! ### non-vacuity: a concrete two-environment collection with a wrapped buffer -/

open Lerax.C05 in
example :
    let hist := [producedRows toyEnv (fun a => min a 6) toyPolicy 0 0 [1, 2, 3, 4, 5],
                 producedRows toyEnv (fun a => min a 6) toyPolicy 0 0 [7]]
    let bs := hist.map (fun rows => rows.foldl add (empty 2))
    flatMask bs = [true, true, true, false] ∧
    ((take (flatSlots bs) [1, 2]).map (fun x => x.map (fun r => (r.done, r.timeout)))) =
      [some (true, true), some (false, false)] := by decide

end Lerax.PipelineOff
