/-
  C17 / C02 — the generic theorems specialised to ℝ with `Real.sin`, `Real.cos`, `Real.pi` and
  the floor-based remainder: the trigonometric hypotheses (`-1 ≤ sin, cos ≤ 1`, `0 < π`) and the
  `%` contract are discharged from Mathlib.
-/
import LeraxProofs.C17Classic
import Mathlib.Analysis.SpecialFunctions.Trigonometric.Basic

namespace Lerax.C17
open Lerax.Classic Lerax.GymRef

/-- float `%` over ℝ -/
noncomputable def realPmod (a m : ℝ) : ℝ := a - m * ((⌊a / m⌋ : ℤ) : ℝ)

theorem realPmod_spec : PmodSpec realPmod := pmodFloor_spec

/-- **C02 bound theorem over ℝ** with the real sine and cosine. -/
theorem classic_obs_in_space_real :
    (∀ (p : MountainCarP ℝ) (y : S2 ℝ), p.minPosition ≤ p.maxPosition → 0 ≤ p.maxSpeed →
      inBox (mcObsLow p) (mcObsHigh p) (mcObs (mcClip p y)) = true) ∧
    (∀ (p : CmcP ℝ) (y : S2 ℝ), p.minPosition ≤ p.maxPosition → 0 ≤ p.maxSpeed →
      inBox (cmcObsLow p) (cmcObsHigh p) (cmcObs (cmcClip p y)) = true) ∧
    (∀ (p : PendulumP ℝ) (y : S2 ℝ), 0 ≤ p.maxSpeed →
      inBox ((pendulumObsHigh p).map Neg.neg) (pendulumObsHigh p)
        (pendulumObs Real.sin Real.cos (pendulumClip realPmod Real.pi p y)) = true) ∧
    (∀ (p : AcrobotP ℝ) (y : S4 ℝ), 0 ≤ p.maxVel1 → 0 ≤ p.maxVel2 →
      inBox ((acrobotObsHigh p).map Neg.neg) (acrobotObsHigh p)
        (Classic.acrobotObs Real.sin Real.cos (acrobotClip realPmod Real.pi p y)) = true) :=
  classic_obs_in_space Real.sin Real.cos realPmod Real.pi
    (fun x => ⟨Real.neg_one_le_sin x, Real.sin_le_one x⟩)
    (fun x => ⟨Real.neg_one_le_cos x, Real.cos_le_one x⟩)

/-- **Acrobot limits over ℝ**: lerax's wrap-and-clip equals Gymnasium's `wrap`/`bound`. -/
theorem acrobot_limits_eq_real (fuel : Nat) (p : AcrobotP ℝ) (y : S4 ℝ)
    (ha : -Real.pi ≤ GymRef.wrap fuel (-Real.pi) Real.pi y.a ∧
          GymRef.wrap fuel (-Real.pi) Real.pi y.a < Real.pi)
    (hb : -Real.pi ≤ GymRef.wrap fuel (-Real.pi) Real.pi y.b ∧
          GymRef.wrap fuel (-Real.pi) Real.pi y.b < Real.pi) :
    acrobotClip realPmod Real.pi p y = acrobotLimits fuel Real.pi (acroG p) y :=
  acrobot_limits_eq realPmod realPmod_spec Real.pi Real.pi_pos fuel p y ha hb

/-- **CartPole / Acrobot fields over ℝ** with the real sine and cosine. -/
theorem fields_eq_real (pc : CartPoleP ℝ) (pa : AcrobotP ℝ) (y : S4 ℝ) (a : Nat) :
    (a < 2 → cartpoleDynamics Real.sin Real.cos pc y a = cartpoleField Real.sin Real.cos (cartG pc) y a) ∧
    acrobotDynamics Real.sin Real.cos Real.pi pa y a =
      acrobotField Real.sin Real.cos Real.pi (acroG pa) y a :=
  ⟨cartpole_field_eq _ _ pc y a, acrobot_field_eq _ _ _ pa y a⟩

end Lerax.C17
