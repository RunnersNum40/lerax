/-
  `jnp.clip` / `np.clip` / `min(max(x, lo), hi)` is written in every model file that clips as the same nested
  `if` over `<` (core classes only, so that the driver can run it on `Float`).  Here the two `if`s are
  identified with `max` and `min` of a linear order, once; each model's `clip` then has a one-line
  `…_eq_min_max` lemma and inherits Mathlib's order lemmas.  Also `not_decide_le`: the two
  spellings of a threshold test (lerax `~(x <= t)`, Gymnasium `x > t`).
-/
import Mathlib.Order.MinMax

namespace Lerax
variable {β : Type} [LinearOrder β]

theorem ite_lt_eq_max (x lo : β) : (if x < lo then lo else x) = max x lo :=
  (max_def_lt x lo).symm

theorem ite_lt_eq_min (t hi : β) : (if hi < t then hi else t) = min t hi :=
  (min_def_lt' t hi).symm

theorem le_min_max (lo hi x : β) (h : lo ≤ hi) : lo ≤ min (max x lo) hi :=
  le_min (le_max_right x lo) h

theorem min_max_of_mem (lo hi x : β) (h1 : lo ≤ x) (h2 : x ≤ hi) : min (max x lo) hi = x := by
  rw [max_eq_left h1, min_eq_left h2]

/-- clipping from above first gives the same for well-formed bounds -/
theorem max_min_eq_min_max (lo hi x : β) (h : lo ≤ hi) : max (min x hi) lo = min (max x lo) hi := by
  rw [max_min_distrib_right, max_eq_left h]

theorem not_decide_le (a b : β) : (!decide (a ≤ b)) = decide (b < a) :=
  (decide_not ..).symm.trans (decide_eq_decide.2 not_le)

end Lerax
