/-
  C14 — Spaces: exact membership, member samples, coherent equality.

  Theorems about `LeraxModel/Space.lean` for ALL spaces (arbitrary nesting, shapes, bounds) and
  ALL candidate values, over an arbitrary linearly ordered field `α` (hence ℝ and ℚ).
  `isInt : α → Bool` is the integrality test (`x == floor x`); where a theorem needs it, the
  assumption is `∀ k : ℕ, isInt k = true` (natural numbers are integral; `canonical_mem` needs
  it for 0 only).  Every recursive statement comes in three forms — for a space, for the fields of a
  `Dict`, for the items of a `Tuple` — proved together by structural recursion.
  The pre-repair `Discrete.contains` tests on narrow and wide integer candidates are modelled at
  the end of this file (`legacyDiscreteContains…`, `wrap32`): `Val` carries no dtype.
-/
import LeraxModel.Space
import LeraxProofs.ListFacts
import Mathlib.Algebra.Order.Field.Basic
import Mathlib.Algebra.Order.Field.Rat
import Mathlib.Algebra.Order.Floor.Ring
import Mathlib.Tactic.Linarith

namespace Lerax.C14
open Lerax.Space

set_option linter.unusedSectionVars false

section general
variable {α : Type} [Field α] [LinearOrder α] [IsStrictOrderedRing α]
variable (isInt : α → Bool)

/-! `Num.le` sees a finite entry only through its value `fin?` (`-0.0` is the number 0); an entry
    without a value is `-inf` if it is a lower bound, `+inf` if an upper one. -/

theorem Num.le_refl_of_ne_nan (x : Num α) (h : x ≠ .nan) : x.le x = true := by
  cases x <;> simp_all [Num.le]

theorem le_iff_of_fin? {l h : Num α} {a b : α} (hl : l.fin? = some a) (hh : h.fin? = some b) :
    l.le h = true ↔ a ≤ b := by
  cases l <;> cases hl <;> cases h <;> cases hh <;>
    first | exact decide_eq_true_iff | exact iff_of_true rfl le_rfl

theorem eq_ninf_of_isLow : ∀ {l : Num α}, l.isLow = true → l.fin? = none → l = .ninf
  | .ninf, _, _ => rfl

theorem eq_pinf_of_isHigh : ∀ {h : Num α}, h.isHigh = true → h.fin? = none → h = .pinf
  | .pinf, _, _ => rfl

theorem ne_nan_of_le {l h : Num α} (hle : l.le h = true) : l ≠ .nan ∧ h ≠ .nan := by
  constructor <;> rintro rfl
  · cases hle
  · cases l <;> cases hle

theorem eqv_iff_of_fin? {a b : Num α} {x y : α} (ha : a.fin? = some x) (hb : b.fin? = some y) :
    a.eqv b = true ↔ x = y := by
  rw [Num.eqv, Bool.and_eq_true, le_iff_of_fin? ha hb, le_iff_of_fin? hb ha, le_antisymm_iff]

@[elab_as_elim]
theorem all2_induction {β γ : Type} {R : β → γ → Prop} {P : ∀ bs cs, All2 R bs cs → Prop}
    (nil : P [] [] trivial)
    (cons : ∀ b bs c cs (h : R b c) (hs : All2 R bs cs), P bs cs hs → P (b :: bs) (c :: cs) ⟨h, hs⟩) :
    ∀ bs cs (H : All2 R bs cs), P bs cs H
  -- lists of unequal length need no case: `All2 R · ·` of them is `False`, and it is among the patterns
  | [], [], _ => nil
  | b :: bs, c :: cs, h => cons b bs c cs h.1 h.2 (all2_induction nil cons bs cs h.2)

theorem all2_imp {β γ : Type} {R S : β → γ → Prop} (h : ∀ b c, R b c → S b c) {bs : List β}
    {cs : List γ} (H : All2 R bs cs) : All2 S bs cs := by
  induction bs, cs, H using all2_induction with
  | nil => trivial
  | cons b _ c _ hr _ ih => exact ⟨h b c hr, ih⟩

theorem all2_length {β γ : Type} {R : β → γ → Prop} {a : List β} {b : List γ} (h : All2 R a b) :
    a.length = b.length := by
  induction a, b, h using all2_induction with
  | nil => rfl
  | cons _ _ _ _ _ _ ih => exact congrArg Nat.succ ih

/-- a Boolean loop over two lists that tests `r` entry by entry and rejects unequal lengths
    decides `All2 R` when `r` decides `R`; `allLe`, `allIndex` and `boundsOk` are such loops -/
theorem all2_of_loop {β γ : Type} {f : List β → List γ → Bool} {r : β → γ → Bool}
    {R : β → γ → Prop}
    (hf : ∀ bs cs, f bs cs = match bs, cs with
      | [], [] => true
      | b :: bs, c :: cs => r b c && f bs cs
      | _, _ => false)
    (hr : ∀ b c, r b c = true ↔ R b c) :
    ∀ bs cs, f bs cs = true ↔ All2 R bs cs
  | [], [] => iff_of_true (hf [] []) trivial
  | [], _ :: _ | _ :: _, [] => iff_of_false (by rw [hf]; exact Bool.false_ne_true) id
  | b :: bs, c :: cs => by
      rw [hf, Bool.and_eq_true, hr, all2_of_loop hf hr bs cs]; rfl

theorem all2_replicate {β γ : Type} {R : β → γ → Prop} (c : β) : ∀ (l : List γ),
    (∀ x ∈ l, R c x) → All2 R (List.replicate l.length c) l
  | [], _ => trivial
  | x :: l, h => ⟨h x List.mem_cons_self,
      all2_replicate c l fun y hy => h y (List.mem_cons_of_mem _ hy)⟩

theorem allLe_iff (a b : List (Num α)) : allLe a b = true ↔ All2 (fun x y => x.le y = true) a b :=
  all2_of_loop (fun a b => by cases a <;> cases b <;> rfl) (fun _ _ => Iff.rfl) a b

theorem boundsOk_iff (lo hi : List (Num α)) : boundsOk lo hi = true ↔
    All2 (fun l h => l.isLow = true ∧ h.isHigh = true ∧ l.le h = true) lo hi :=
  all2_of_loop (fun lo hi => by cases lo <;> cases hi <;> rfl)
    (fun _ _ => by simp only [Bool.and_eq_true, and_assoc]) lo hi

theorem boundsOk_le {lo hi : List (Num α)} (hb : boundsOk lo hi = true) :
    All2 (fun l h => l.le h = true) lo hi :=
  all2_imp (fun _ _ h => h.2.2) ((boundsOk_iff lo hi).1 hb)

theorem isIndex_iff (x : Num α) (n : Nat) : isIndex isInt x n = true ↔ IsIndex isInt x n := by
  cases x with
  | fin _ | nzero =>
      simp only [isIndex, IsIndex, Num.integral, Num.nonneg, Num.ltNat, Num.le, Num.fin?,
        Bool.and_eq_true, decide_eq_true_eq, Option.some.injEq, exists_eq_left', and_assoc]
  | _ => exact iff_of_false Bool.false_ne_true fun ⟨_, h, _⟩ => nomatch h

theorem eqv_fin_iff (x : Num α) (c : α) : x.eqv (.fin c) = true ↔ x.fin? = some c := by
  cases x with
  | fin _ | nzero => exact (eqv_iff_of_fin? rfl rfl).trans Option.some_inj.symm
  | _ => exact iff_of_false Bool.false_ne_true nofun

theorem isBit_iff (x : Num α) : isBit x = true ↔ IsBit x := by
  simp only [isBit, IsBit, Bool.or_eq_true, eqv_fin_iff]

theorem allIndex_iff (d : List (Num α)) (nv : List Nat) :
    allIndex isInt d nv = true ↔ All2 (IsIndex isInt) d nv :=
  all2_of_loop (fun d nv => by cases d <;> cases nv <;> rfl) (isIndex_iff isInt) d nv

theorem keysEq_iff (a b : List String) : keysEq a b = true ↔ ∀ k, k ∈ a ↔ k ∈ b := by
  simp only [keysEq, Bool.and_eq_true, List.all_eq_true, List.contains_iff_mem]
  exact ⟨fun h k => ⟨h.1 k, h.2 k⟩, fun h => ⟨fun k => (h k).1, fun k => (h k).2⟩⟩

theorem memList_length : ∀ (ss : List (Space α)) (xs : List (Val α)),
    MemList isInt ss xs → xs.length = ss.length
  | [], [], _ => rfl
  | _ :: ss, _ :: xs, h => congrArg Nat.succ (memList_length ss xs h.2)

/-- the array-like spaces test `try_cast x` against a shape and a condition on the data -/
theorem leaf_iff (v : Val α) (sh : List Nat) {p : List (Num α) → Bool} {P : List (Num α) → Prop}
    (hp : ∀ d, p d = true ↔ P d) :
    (match tryCast v with
      | none => false
      | some (xs, d) => xs == sh && p d) = true ↔ ∃ d, tryCast v = some (sh, d) ∧ P d := by
  cases tryCast v with
  | none => simp
  | some a =>
      obtain ⟨xs, d⟩ := a
      simp only [Bool.and_eq_true, beq_iff_eq, hp, Option.some.injEq, Prod.mk.injEq]
      constructor
      · rintro ⟨h1, h2⟩; exact ⟨d, ⟨h1, rfl⟩, h2⟩
      · rintro ⟨_, ⟨h1, rfl⟩, h3⟩; exact ⟨h1, h3⟩

mutual
/-- **`contains` is true exactly for members** (every space, every candidate value). -/
theorem contains_iff_mem : ∀ (s : Space α) (v : Val α),
    contains isInt s v = true ↔ Mem isInt s v
  | .box sh lo hi, v => by
      simp only [contains, Mem, boxContains, Bool.and_assoc]
      exact leaf_iff v sh fun d => by simp only [Bool.and_eq_true, allLe_iff]
  | .discrete n, v => by
      simp only [contains, Mem, discreteContains]
      split
      · next x h => simp [h, isIndex_iff]
      · next h => exact iff_of_false Bool.false_ne_true fun ⟨x, hx, _⟩ => h x hx
  | .multiBinary sh, v => by
      simp only [contains, Mem, multiBinaryContains]
      exact leaf_iff v sh fun d => by simp only [List.all_eq_true, isBit_iff]
  | .multiDiscrete nv, v => by
      simp only [contains, Mem, multiDiscreteContains]
      exact leaf_iff v _ fun d => allIndex_iff isInt d nv
  | .dict fs, v => by
      cases v <;> simp [contains, Mem, keysEq_iff, containsFields_iff fs]
  | .tuple ss, v => by
      cases v with
      | tuple xs =>
          -- `MemList` already forces equal lengths: the code's length test is redundant
          rw [contains, Bool.and_eq_true, beq_iff_eq, containsList_iff]
          exact ⟨fun h => ⟨xs, rfl, h.2⟩,
            fun ⟨_, e, h⟩ => by cases e; exact ⟨memList_length isInt ss xs h, h⟩⟩
      | _ => simp [contains, Mem]
theorem containsFields_iff : ∀ (fs : List (String × Space α)) (kvs : List (String × Val α)),
    containsFields isInt fs kvs = true ↔ MemFields isInt fs kvs
  | [], kvs => by simp [containsFields, MemFields]
  | (k, s) :: fs, kvs => by
      simp only [containsFields, MemFields, Bool.and_eq_true, containsFields_iff fs kvs]
      cases h : kvs.lookup k with
      | none => simp
      | some x => simp [contains_iff_mem s x]
theorem containsList_iff : ∀ (ss : List (Space α)) (xs : List (Val α)),
    containsList isInt ss xs = true ↔ MemList isInt ss xs
  | [], [] | [], _ :: _ | _ :: _, [] => by simp [containsList, MemList]
  | s :: ss, x :: xs => by
      simp [containsList, MemList, contains_iff_mem s x, containsList_iff ss xs]
end

/-- **The answer is always a scalar boolean**, and it is `True` exactly for members. -/
theorem containsR_scalar (s : Space α) (v : Val α) :
    ∃ b, containsR isInt s v = .scalar b ∧ (b = true ↔ Mem isInt s v) :=
  ⟨contains isInt s v, rfl, contains_iff_mem isInt s v⟩

/-- Φ (`phiContains`) holds of the model's own answer. -/
theorem phi_contains (s : Space α) (v : Val α) :
    phiContains isInt s v (containsR isInt s v) = true := by
  simp [phiContains, containsR]

/-! ## Values built in the space's own order (what `sample` and `canonical` return) -/

/-- the items of an `OrderedDict` listed in the Dict space's key order, each a member -/
def InOrder : List (String × Space α) → List (String × Val α) → Prop
  | [], [] => True
  | (k, s) :: fs, (k', x) :: kvs => k = k' ∧ Mem isInt s x ∧ InOrder fs kvs
  | _, _ => False

theorem inOrder_keys : ∀ (fs : List (String × Space α)) (kvs : List (String × Val α)),
    InOrder isInt fs kvs → keys kvs = keys fs
  | [], [], _ => rfl
  | (k, _) :: fs, (_, _) :: kvs, ⟨rfl, _, hr⟩ => congrArg (k :: ·) (inOrder_keys fs kvs hr)

theorem lookup_cons_ne {β : Type} {k k' : String} (x : β) (kvs : List (String × β)) (h : k ≠ k') :
    ((k, x) :: kvs).lookup k' = kvs.lookup k' := by
  rw [List.lookup_cons, beq_false_of_ne h.symm]

theorem not_mem_keys_cons {β : Type} {k k' : String} {s : β} {fs : List (String × β)} :
    k ∉ keys ((k', s) :: fs) ↔ k ≠ k' ∧ k ∉ keys fs :=
  List.mem_cons.not.trans not_or

theorem nodupKeys_cons {β : Type} {k : String} {s : β} {fs : List (String × β)} :
    nodupKeys (keys ((k, s) :: fs)) = true ↔ k ∉ keys fs ∧ nodupKeys (keys fs) = true := by
  show ((!(keys fs).contains k) && nodupKeys (keys fs)) = true ↔ _
  simp only [Bool.and_eq_true, Bool.not_eq_true', ← Bool.not_eq_true, List.contains_iff_mem]

/-! an item under a key the Dict space does not declare is never looked at: neither by `MemFields`
    nor by `normalizeFields` -/

theorem memFields_cons (k : String) (x : Val α) : ∀ (fs : List (String × Space α))
    (kvs : List (String × Val α)), k ∉ keys fs → MemFields isInt fs kvs →
    MemFields isInt fs ((k, x) :: kvs)
  | [], _ => fun _ _ => trivial
  | (k', s) :: fs, kvs => fun hk h => by
      obtain ⟨hne, hk⟩ := not_mem_keys_cons.1 hk
      simp only [MemFields, lookup_cons_ne x kvs hne]
      exact ⟨h.1, memFields_cons k x fs kvs hk h.2⟩

theorem normalizeFields_cons (k : String) (x : Val α) : ∀ (fs : List (String × Space α))
    (kvs : List (String × Val α)), k ∉ keys fs →
    normalizeFields fs ((k, x) :: kvs) = normalizeFields fs kvs
  | [], _ => fun _ => rfl
  | (k', s) :: fs, kvs => fun hk => by
      obtain ⟨hne, hk⟩ := not_mem_keys_cons.1 hk
      simp only [normalizeFields, lookup_cons_ne x kvs hne, normalizeFields_cons k x fs kvs hk]

theorem inOrder_memFields : ∀ (fs : List (String × Space α)) (kvs : List (String × Val α)),
    nodupKeys (keys fs) = true → InOrder isInt fs kvs → MemFields isInt fs kvs
  | [], _, _, _ => trivial
  | (k, s) :: fs, (k', x) :: kvs, hn, ⟨hk, hm, hr⟩ => by
      subst hk
      obtain ⟨hk, hn⟩ := nodupKeys_cons.1 hn
      exact ⟨⟨x, List.lookup_cons_self, hm⟩,
        memFields_cons isInt k x fs kvs hk (inOrder_memFields fs kvs hn hr)⟩

theorem inOrder_mem_dict (fs : List (String × Space α)) (kvs : List (String × Val α))
    (hn : nodupKeys (keys fs) = true) (h : InOrder isInt fs kvs) :
    Mem isInt (.dict fs) (.odict kvs) :=
  ⟨kvs, rfl, fun _ => by rw [inOrder_keys isInt fs kvs h], inOrder_memFields isInt fs kvs hn h⟩

theorem lerp_mem {a b u : α} (hab : a ≤ b) (hu0 : 0 ≤ u) (hu1 : u ≤ 1) :
    a ≤ a + u * (b - a) ∧ a + u * (b - a) ≤ b := by
  have h := sub_nonneg.2 hab
  exact ⟨le_add_of_nonneg_right (mul_nonneg hu0 h),
    le_sub_iff_add_le'.1 (mul_le_of_le_one_left h hu1)⟩

/-- the model writes `1 + 1` for 2: it asks only `One`/`Add` of `α`, so the driver can run it on `Float` -/
theorem midpoint_mem {a b : α} (hab : a ≤ b) :
    a ≤ (a + b) / (1 + 1) ∧ (a + b) / (1 + 1) ≤ b := by
  constructor <;> linarith

theorem sampleEntry_within (l h : Num α) (u e z : α) (hl : l.isLow = true) (hh : h.isHigh = true)
    (hle : l.le h = true) (hu0 : 0 ≤ u) (hu1 : u < 1) (he : 0 ≤ e) :
    l.le (sampleEntry l h u e z) = true ∧ (sampleEntry l h u e z).le h = true := by
  unfold sampleEntry
  cases hl' : l.fin? with
  | none =>
    cases eq_ninf_of_isLow hl hl'
    cases hh' : h.fin? with
    | none => cases eq_pinf_of_isHigh hh hh'; exact ⟨rfl, rfl⟩
    | some b => exact ⟨rfl, (le_iff_of_fin? rfl hh').2 (sub_le_self b he)⟩
  | some a =>
    cases hh' : h.fin? with
    | none =>
      cases eq_pinf_of_isHigh hh hh'
      exact ⟨(le_iff_of_fin? hl' rfl).2 (le_add_of_nonneg_right he), rfl⟩
    | some b =>
      have := lerp_mem ((le_iff_of_fin? hl' hh').1 hle) hu0 hu1.le
      exact ⟨(le_iff_of_fin? hl' rfl).2 this.1, (le_iff_of_fin? rfl hh').2 this.2⟩

theorem sampleBox_within (lo hi : List (Num α)) (hb : boundsOk lo hi = true) :
    ∀ us es zs, boxDrawsOk lo.length us es zs →
    All2 (fun x y => x.le y = true) lo (sampleBox lo hi us es zs) ∧
    All2 (fun x y => x.le y = true) (sampleBox lo hi us es zs) hi := by
  replace hb := (boundsOk_iff lo hi).1 hb
  induction lo, hi, hb using all2_induction with
  | nil => intro us es zs _; exact ⟨trivial, trivial⟩
  | cons l ls h hs hlh _ ih =>
    intro us es zs ⟨hu, he, hz, hur, her⟩
    -- `hu he hz : ….length = ls.length + 1` rule out the empty lists
    match us, es, zs, hu, he, hz with
    | u :: us, e :: es, z :: zs, hu, he, hz =>
      obtain ⟨hu', hur⟩ := List.forall_mem_cons.1 hur
      obtain ⟨he', her⟩ := List.forall_mem_cons.1 her
      have h1 := sampleEntry_within l h u e z hlh.1 hlh.2.1 hlh.2.2 hu'.1 hu'.2 he'
      have ih := ih us es zs ⟨Nat.succ.inj hu, Nat.succ.inj he, Nat.succ.inj hz, hur, her⟩
      exact ⟨⟨h1.1, ih.1⟩, ⟨h1.2, ih.2⟩⟩

theorem all2_index_of_lt (hInt : ∀ k : Nat, isInt (k : α) = true) {ix nv : List Nat}
    (h : All2 (fun i n => i < n) ix nv) :
    All2 (IsIndex isInt) (ix.map (fun (i : Nat) => Num.fin (Nat.cast i : α))) nv := by
  induction ix, nv, h using all2_induction with
  | nil => trivial
  | cons i _ n _ h _ ih =>
    exact ⟨⟨(i : α), rfl, hInt i, Nat.cast_nonneg i, by exact_mod_cast h⟩, ih⟩

theorem tryCast_arr (sh : List Nat) (d : List (Num α)) (h : d.length = prod sh) :
    tryCast (Val.arr sh d) = some (sh, d) := by simp [tryCast, h]

/-- data paired entry by entry with `lo` has `lo`'s length, which well-formedness ties to the shape -/
theorem box_data_length {sh : List Nat} {lo hi d : List (Num α)} {R : Num α → Num α → Prop}
    (hw : wellFormed (.box sh lo hi) = true) (h : All2 R lo d) : d.length = prod sh :=
  (all2_length h).symm.trans (eq_of_beq (Bool.and_eq_true_iff.1 hw).1)

theorem sampleBox_length {sh : List Nat} {lo hi : List (Num α)} {us es zs : List α}
    (hw : wellFormed (.box sh lo hi) = true) (hd : boxDrawsOk lo.length us es zs) :
    (sampleBox lo hi us es zs).length = prod sh :=
  box_data_length hw (sampleBox_within lo hi (Bool.and_eq_true_iff.1 hw).2 us es zs hd).1

mutual
/-- **Every sample is a member**: for a well-formed space and draws in the range promised by
    `jax.random` (`u ∈ [0,1)`, `e ≥ 0`, any normal `z`, indices below their bounds). -/
theorem sample_mem (hInt : ∀ k : Nat, isInt (k : α) = true) : ∀ (s : Space α) (d : Draw α),
    wellFormed s = true → DrawOk s d → Mem isInt s (sample s d)
  -- `DrawOk s d` is among the patterns, so the match itself discards the draws of the wrong kind
  | .box _ lo hi, .box us es zs, hw, hd =>
      ⟨_, tryCast_arr _ _ (sampleBox_length hw hd),
        sampleBox_within lo hi (Bool.and_eq_true_iff.1 hw).2 us es zs hd⟩
  | .discrete _, .index i, _, hd =>
      ⟨_, tryCast_arr _ _ rfl, (i : α), rfl, hInt i, Nat.cast_nonneg i, Nat.cast_lt.2 hd⟩
  | .multiBinary _, .bits _, _, hd =>
      ⟨_, tryCast_arr _ _ ((List.length_map _).trans hd), List.forall_mem_map.2 fun
        | false, _ => .inl rfl
        | true, _ => .inr rfl⟩
  | .multiDiscrete _, .indices _, _, hd =>
      have h := all2_index_of_lt isInt hInt hd
      ⟨_, tryCast_arr _ _ ((all2_length h).trans (Nat.mul_one _).symm), h⟩
  | .dict fs, .node ds, hw, hd =>
      have hw := Bool.and_eq_true_iff.1 hw
      inOrder_mem_dict isInt fs _ hw.1 (sampleFields_inOrder hInt fs ds hw.2 hd)
  | .tuple ss, .node ds, hw, hd =>
      ⟨_, rfl, sampleList_mem hInt ss ds (Bool.and_eq_true_iff.1 hw).2 hd⟩
theorem sampleFields_inOrder (hInt : ∀ k : Nat, isInt (k : α) = true) :
    ∀ (fs : List (String × Space α)) (ds : List (Draw α)),
    wellFormedFields fs = true → DrawOkFields fs ds → InOrder isInt fs (sampleFields fs ds)
  | [], [], _, _ => trivial
  | (_, s) :: fs, d :: ds, hw, hd =>
      have hw := Bool.and_eq_true_iff.1 hw
      ⟨rfl, sample_mem hInt s d hw.1 hd.1, sampleFields_inOrder hInt fs ds hw.2 hd.2⟩
theorem sampleList_mem (hInt : ∀ k : Nat, isInt (k : α) = true) :
    ∀ (ss : List (Space α)) (ds : List (Draw α)),
    wellFormedList ss = true → DrawOkList ss ds → MemList isInt ss (sampleList ss ds)
  | [], [], _, _ => trivial
  | s :: ss, d :: ds, hw, hd =>
      have hw := Bool.and_eq_true_iff.1 hw
      ⟨sample_mem hInt s d hw.1 hd.1, sampleList_mem hInt ss ds hw.2 hd.2⟩
end

/-- **A `Discrete` mask is honoured**: an index to which `jr.choice` gives non-zero probability
    `p = mask / sum(mask)` is an allowed one. -/
theorem choice_nonzero_allowed (mask : List Bool) (i : Nat)
    (h : (choiceProbs (α := α) mask).getD i 0 ≠ 0) : mask.getD i false = true := by
  -- entry `i` is `w i / Σ w` with `w i = 0` for a false or missing mask bit, and `0 / x = 0`
  simp only [choiceProbs, List.map_map, List.getD_eq_getElem?_getD, List.getElem?_map] at h ⊢
  cases hm : mask[i]? with
  | none => simp [hm] at h
  | some b => cases b <;> simp_all

/-- Φ (`phiMember`) holds of the model's sample of `Discrete(n)` under a mask whenever the drawn
    index has non-zero probability. -/
theorem sample_discrete_mask (hInt : ∀ k : Nat, isInt (k : α) = true) (n : Nat) (mask : List Bool)
    (i : Nat) (hi : i < n) (hp : (choiceProbs (α := α) mask).getD i 0 ≠ 0) :
    phiMember isInt (.discrete n) (some mask) (sample (.discrete n) (.index i)) = true := by
  have hm := choice_nonzero_allowed mask i hp
  have hmem := sample_mem isInt hInt (.discrete n) (.index i) (decide_eq_true (Nat.zero_lt_of_lt hi)) hi
  simp only [phiMember, Bool.and_eq_true, (contains_iff_mem isInt _ _).2 hmem, true_and]
  simp only [sample, maskAllows, List.any_eq_true, List.mem_range, Bool.and_eq_true]
  have hlen : i < mask.length := by
    by_contra hc
    simp [List.getD_eq_getElem?_getD, List.getElem?_eq_none (Nat.le_of_not_lt hc)] at hm
  exact ⟨i, hlen, hm, (eqv_fin_iff _ _).2 rfl⟩

theorem le_of_not_fin_le {c : α} {x : Num α} (hx : x ≠ .nan) (h : ¬ (Num.fin c).le x = true) :
    x.le (.fin c) = true := by
  cases x <;> simp_all [Num.le, le_of_lt]

/-- clipping 0 into `[l, h]` lands in `[l, h]`, whatever the bounds (finite or not) -/
theorem clipZero_within {l h : Num α} (hle : l.le h = true) :
    l.le (clipZero l h) = true ∧ (clipZero l h).le h = true := by
  obtain ⟨hl, hh⟩ := ne_nan_of_le hle
  simp only [clipZero]
  -- `0 ≤ l`: the answer is `l`; else `0 ≤ h`: it is `0`; else it is `h`
  split_ifs with h0 h1
  exacts [⟨Num.le_refl_of_ne_nan l hl, hle⟩, ⟨le_of_not_fin_le hl h0, h1⟩,
    ⟨hle, Num.le_refl_of_ne_nan h hh⟩]

theorem canonicalEntry_within (l h : Num α) (hle : l.le h = true) :
    l.le (canonicalEntry l h) = true ∧ (canonicalEntry l h).le h = true := by
  unfold canonicalEntry
  cases hl' : l.fin? with
  | none => exact clipZero_within hle
  | some a =>
    cases hh' : h.fin? with
    | none => exact clipZero_within hle
    | some b =>
      have := midpoint_mem ((le_iff_of_fin? hl' hh').1 hle)
      exact ⟨(le_iff_of_fin? hl' rfl).2 this.1, (le_iff_of_fin? rfl hh').2 this.2⟩

theorem canonicalBox_within (lo hi : List (Num α)) (hb : All2 (fun l h => l.le h = true) lo hi) :
    All2 (fun x y => x.le y = true) lo (canonicalBox lo hi) ∧
    All2 (fun x y => x.le y = true) (canonicalBox lo hi) hi := by
  induction lo, hi, hb using all2_induction with
  | nil => exact ⟨trivial, trivial⟩
  | cons l _ h _ hle _ ih =>
    have h1 := canonicalEntry_within l h hle
    exact ⟨⟨h1.1, ih.1⟩, ⟨h1.2, ih.2⟩⟩

theorem isIndex_zero (h0 : isInt (0 : α) = true) (n : Nat) (hn : 0 < n) :
    IsIndex isInt (Num.fin (0 : α)) n :=
  ⟨0, rfl, h0, le_refl _, by exact_mod_cast hn⟩

mutual
/-- **`canonical()` is a member** of every well-formed space — infinite bounds included (the
    repaired `Box.canonical` clips 0 into a half-infinite or unbounded interval). -/
theorem canonical_mem (h0 : isInt (0 : α) = true) : ∀ (s : Space α),
    wellFormed s = true → Mem isInt s (canonical s)
  | .box sh lo hi => fun hw =>
      have h := canonicalBox_within lo hi (boundsOk_le (Bool.and_eq_true_iff.1 hw).2)
      ⟨_, tryCast_arr _ _ (box_data_length hw h.1), h⟩
  | .discrete n => fun hw => ⟨_, tryCast_arr _ _ rfl, isIndex_zero isInt h0 n (of_decide_eq_true hw)⟩
  | .multiBinary sh => fun _ =>
      ⟨_, tryCast_arr _ _ List.length_replicate, fun x hx => by
        rw [List.eq_of_mem_replicate hx]; exact .inl rfl⟩
  | .multiDiscrete nv => fun hw =>
      ⟨_, tryCast_arr _ _ (List.length_replicate.trans (Nat.mul_one _).symm),
        all2_replicate _ nv fun n hn => isIndex_zero isInt h0 n
          (of_decide_eq_true (List.all_eq_true.1 (Bool.and_eq_true_iff.1 hw).2 n hn))⟩
  | .dict fs => fun hw =>
      have hw := Bool.and_eq_true_iff.1 hw
      inOrder_mem_dict isInt fs _ hw.1 (canonicalFields_inOrder h0 fs hw.2)
  | .tuple ss => fun hw => ⟨_, rfl, canonicalList_mem h0 ss (Bool.and_eq_true_iff.1 hw).2⟩
theorem canonicalFields_inOrder (h0 : isInt (0 : α) = true) :
    ∀ (fs : List (String × Space α)),
    wellFormedFields fs = true → InOrder isInt fs (canonicalFields fs)
  | [] => fun _ => trivial
  | (_, s) :: fs => fun hw =>
      have hw := Bool.and_eq_true_iff.1 hw
      ⟨rfl, canonical_mem h0 s hw.1, canonicalFields_inOrder h0 fs hw.2⟩
theorem canonicalList_mem (h0 : isInt (0 : α) = true) : ∀ (ss : List (Space α)),
    wellFormedList ss = true → MemList isInt ss (canonicalList ss)
  | [] => fun _ => trivial
  | s :: ss => fun hw =>
      have hw := Bool.and_eq_true_iff.1 hw
      ⟨canonical_mem h0 s hw.1, canonicalList_mem h0 ss hw.2⟩
end

theorem stack_length (parts : List (Arr α)) (h : ∀ a ∈ parts, a.2.length = prod a.1)
    (sh : List Nat) (d : List (Num α)) (hs : stack parts = some (sh, d)) : d.length = prod sh := by
  cases parts with
  | nil => cases hs; rfl
  | cons a rest =>
      simp only [stack] at hs
      split_ifs at hs with hall
      cases hs
      simp only [List.all_eq_true, beq_iff_eq] at hall
      have hr : ∀ xs ∈ rest.map (·.2), xs.length = prod a.1 :=
        List.forall_mem_map.2 fun b hb => by rw [h b (List.mem_cons_of_mem _ hb), hall b hb]
      rw [List.length_append, ListFacts.length_flatten_uniform _ _ hr, List.length_map,
        h a List.mem_cons_self, prod, Nat.succ_mul, Nat.add_comm]

mutual
/-- `try_cast` only produces arrays whose data fill their shape -/
theorem tryCast_length : ∀ (v : Val α) (sh : List Nat) (d : List (Num α)),
    tryCast v = some (sh, d) → d.length = prod sh
  | .arr sh' d', sh, d => by
      intro h
      simp only [tryCast] at h
      split_ifs at h with hl
      cases h; exact hl
  | .tuple xs, sh, d | .list xs, sh, d => by
      intro h
      simp only [tryCast] at h
      split at h
      · next parts hc => exact stack_length parts (castAll_length xs parts hc) sh d h
      · cases h
  | .odict _, _, _ | .pdict _, _, _ | .foreign, _, _ => by simp [tryCast]
theorem castAll_length : ∀ (xs : List (Val α)) (parts : List (Arr α)),
    castAll xs = some parts → ∀ a ∈ parts, a.2.length = prod a.1
  | [], parts => by rintro ⟨⟩; exact List.forall_mem_nil _
  | x :: xs, parts => by
      intro h
      simp only [castAll] at h
      split at h
      · next a as hx hr =>
          cases h
          exact List.forall_mem_cons.2 ⟨tryCast_length x a.1 a.2 hx, castAll_length xs as hr⟩
      · cases h
end

theorem leafFlatten_eq {v : Val α} {sh : List Nat} {d : List (Num α)}
    (h : tryCast v = some (sh, d)) : leafFlatten v = d := by rw [leafFlatten, h]

theorem leafNormalize_eq {v : Val α} {sh : List Nat} {d : List (Num α)}
    (h : tryCast v = some (sh, d)) : leafNormalize v = .arr sh d := by rw [leafNormalize, h]

mutual
/-- **`flatten_sample` returns exactly `flat_size` numbers** on members. -/
theorem flatten_length : ∀ (s : Space α) (v : Val α),
    Mem isInt s v → (flatten s v).length = flatSize s
  | .box _ _ _, v | .discrete _, v | .multiBinary _, v | .multiDiscrete _, v => by
      rintro ⟨d, hd, _⟩
      rw [flatten, leafFlatten_eq hd, tryCast_length v _ _ hd]
      simp [flatSize, prod]
  | .dict fs, v => by
      rintro ⟨kvs, rfl, _, hm⟩
      exact flattenFields_length fs kvs hm
  | .tuple ss, v => by
      rintro ⟨xs, rfl, hm⟩
      exact flattenList_length ss xs hm
theorem flattenFields_length : ∀ (fs : List (String × Space α)) (kvs : List (String × Val α)),
    MemFields isInt fs kvs → (flattenFields fs kvs).length = flatSizeFields fs
  | [], _, _ => rfl
  | (k, s) :: fs, kvs, ⟨⟨x, hx, hm⟩, hr⟩ => by
      simp [flattenFields, flatSizeFields, hx, flatten_length s x hm, flattenFields_length fs kvs hr]
theorem flattenList_length : ∀ (ss : List (Space α)) (xs : List (Val α)),
    MemList isInt ss xs → (flattenList ss xs).length = flatSizeList ss
  | [], [], _ => rfl
  | s :: ss, x :: xs, ⟨hm, hr⟩ => by
      simp [flattenList, flatSizeList, flatten_length s x hm, flattenList_length ss xs hr]
end

mutual
/-- **The flat vector determines the sample**: the decoder `unflatten` rebuilds (the normal form
    of) every member from its flat vector. -/
theorem unflatten_flatten : ∀ (s : Space α) (v : Val α),
    Mem isInt s v → unflatten s (flatten s v) = normalize s v
  | .box _ _ _, v | .discrete _, v | .multiBinary _, v | .multiDiscrete _, v => by
      rintro ⟨d, hd, _⟩
      rw [flatten, normalize, leafFlatten_eq hd, leafNormalize_eq hd]
      rfl  -- `unflatten` of an array-like space is `.arr shape ·`
  | .dict fs, v => by
      rintro ⟨kvs, rfl, _, hm⟩
      simp only [flatten, unflatten, normalize, unflattenFields_flatten fs kvs hm]
  | .tuple ss, v => by
      rintro ⟨xs, rfl, hm⟩
      simp only [flatten, unflatten, normalize, unflattenList_flatten ss xs hm]
theorem unflattenFields_flatten : ∀ (fs : List (String × Space α)) (kvs : List (String × Val α)),
    MemFields isInt fs kvs → unflattenFields fs (flattenFields fs kvs) = normalizeFields fs kvs
  | [], _, _ => rfl
  | (k, s) :: fs, kvs, ⟨⟨x, hx, hm⟩, hr⟩ => by
      have hl := flatten_length isInt s x hm
      simp only [flattenFields, unflattenFields, normalizeFields, hx, List.take_left' hl,
        List.drop_left' hl, unflatten_flatten s x hm, unflattenFields_flatten fs kvs hr]
theorem unflattenList_flatten : ∀ (ss : List (Space α)) (xs : List (Val α)),
    MemList isInt ss xs → unflattenList ss (flattenList ss xs) = normalizeList ss xs
  | [], [], _ => rfl
  | s :: ss, x :: xs, ⟨hm, hr⟩ => by
      have hl := flatten_length isInt s x hm
      simp only [flattenList, unflattenList, normalizeList, List.take_left' hl,
        List.drop_left' hl, unflatten_flatten s x hm, unflattenList_flatten ss xs hr]
end

/-- **`flatten_sample` is injective on members** (up to the normal form: array-likes read as
    arrays, `OrderedDict` items in the space's key order). -/
theorem flatten_injective_on_members (s : Space α) (v w : Val α) (hv : Mem isInt s v)
    (hw : Mem isInt s w) (h : flatten s v = flatten s w) : normalize s v = normalize s w := by
  rw [← unflatten_flatten isInt s v hv, ← unflatten_flatten isInt s w hw, h]

/-! ### plain samples (arrays at the leaves, items in the space's key order — what `sample`
    returns) are their own normal form, so `flatten_sample` determines them exactly -/

mutual
def Plain : Space α → Val α → Prop
  | .box sh _ _, v => ∃ d, v = .arr sh d ∧ d.length = prod sh
  | .discrete _, v => ∃ d, v = .arr [] d ∧ d.length = 1
  | .multiBinary sh, v => ∃ d, v = .arr sh d ∧ d.length = prod sh
  | .multiDiscrete nv, v => ∃ d, v = .arr [nv.length] d ∧ d.length = nv.length
  | .dict fs, v => ∃ kvs, v = .odict kvs ∧ PlainFields fs kvs
  | .tuple ss, v => ∃ xs, v = .tuple xs ∧ PlainList ss xs
def PlainFields : List (String × Space α) → List (String × Val α) → Prop
  | [], [] => True
  | (k, s) :: fs, (k', x) :: kvs => k = k' ∧ Plain s x ∧ PlainFields fs kvs
  | _, _ => False
def PlainList : List (Space α) → List (Val α) → Prop
  | [], [] => True
  | s :: ss, x :: xs => Plain s x ∧ PlainList ss xs
  | _, _ => False
end

mutual
theorem normalize_plain : ∀ (s : Space α) (v : Val α), wellFormed s = true → Plain s v →
    normalize s v = v
  | .box _ _ _, v | .discrete _, v | .multiBinary _, v | .multiDiscrete _, v => by
      rintro _ ⟨d, rfl, hd⟩
      rw [normalize, leafNormalize_eq (tryCast_arr _ _ (by simpa [prod] using hd))]
  | .dict fs, v => by
      rintro hw ⟨kvs, rfl, hp⟩
      have hw := Bool.and_eq_true_iff.1 hw
      exact congrArg Val.odict (normalizeFields_plain fs kvs hw.1 hw.2 hp)
  | .tuple ss, v => by
      rintro hw ⟨xs, rfl, hp⟩
      exact congrArg Val.tuple (normalizeList_plain ss xs (Bool.and_eq_true_iff.1 hw).2 hp)
theorem normalizeFields_plain : ∀ (fs : List (String × Space α)) (kvs : List (String × Val α)),
    nodupKeys (keys fs) = true → wellFormedFields fs = true → PlainFields fs kvs →
    normalizeFields fs kvs = kvs
  | [], [], _, _, _ => rfl
  | (k, s) :: fs, (_, x) :: kvs, hn, hw, ⟨rfl, hx, hr⟩ => by
      have hw := Bool.and_eq_true_iff.1 hw
      obtain ⟨hk, hn⟩ := nodupKeys_cons.1 hn
      simp only [normalizeFields, List.lookup_cons_self, normalize_plain s x hw.1 hx,
        normalizeFields_cons k x fs kvs hk, normalizeFields_plain fs kvs hn hw.2 hr]
theorem normalizeList_plain : ∀ (ss : List (Space α)) (xs : List (Val α)),
    wellFormedList ss = true → PlainList ss xs → normalizeList ss xs = xs
  | [], [], _, _ => rfl
  | s :: ss, x :: xs, hw, hp =>
      have hw := Bool.and_eq_true_iff.1 hw
      congrArg₂ List.cons (normalize_plain s x hw.1 hp.1) (normalizeList_plain ss xs hw.2 hp.2)
end

/-- **Two plain members with the same flat vector are the same sample.** -/
theorem flatten_injective_on_plain_members (s : Space α) (v w : Val α) (hs : wellFormed s = true)
    (hv : Mem isInt s v) (hw : Mem isInt s w) (pv : Plain s v) (pw : Plain s w)
    (h : flatten s v = flatten s w) : v = w := by
  have := flatten_injective_on_members isInt s v w hv hw h
  rwa [normalize_plain s v hs pv, normalize_plain s w hs pw] at this

mutual
theorem sample_plain : ∀ (s : Space α) (d : Draw α), wellFormed s = true → DrawOk s d →
    Plain s (sample s d)
  | .box _ _ _, .box _ _ _, hw, hd => ⟨_, rfl, sampleBox_length hw hd⟩
  | .discrete _, .index _, _, _ => ⟨_, rfl, rfl⟩
  | .multiBinary _, .bits _, _, hd => ⟨_, rfl, (List.length_map _).trans hd⟩
  | .multiDiscrete _, .indices _, _, hd => ⟨_, rfl, (List.length_map _).trans (all2_length hd)⟩
  | .dict fs, .node ds, hw, hd =>
      ⟨_, rfl, sampleFields_plain fs ds (Bool.and_eq_true_iff.1 hw).2 hd⟩
  | .tuple ss, .node ds, hw, hd =>
      ⟨_, rfl, sampleList_plain ss ds (Bool.and_eq_true_iff.1 hw).2 hd⟩
theorem sampleFields_plain : ∀ (fs : List (String × Space α)) (ds : List (Draw α)),
    wellFormedFields fs = true → DrawOkFields fs ds → PlainFields fs (sampleFields fs ds)
  | [], [], _, _ => trivial
  | (_, s) :: fs, d :: ds, hw, hd =>
      have hw := Bool.and_eq_true_iff.1 hw
      ⟨rfl, sample_plain s d hw.1 hd.1, sampleFields_plain fs ds hw.2 hd.2⟩
theorem sampleList_plain : ∀ (ss : List (Space α)) (ds : List (Draw α)),
    wellFormedList ss = true → DrawOkList ss ds → PlainList ss (sampleList ss ds)
  | [], [], _, _ => trivial
  | s :: ss, d :: ds, hw, hd =>
      have hw := Bool.and_eq_true_iff.1 hw
      ⟨sample_plain s d hw.1 hd.1, sampleList_plain ss ds hw.2 hd.2⟩
end

/-- **Samples are determined by their flat vectors**: two samples of a well-formed space (draws in
    range) that flatten to the same vector are equal. -/
theorem flatten_determines_sample (hInt : ∀ k : Nat, isInt (k : α) = true) (s : Space α)
    (d d' : Draw α) (hs : wellFormed s = true) (hd : DrawOk s d) (hd' : DrawOk s d')
    (h : flatten s (sample s d) = flatten s (sample s d')) : sample s d = sample s d' :=
  flatten_injective_on_plain_members isInt s _ _ hs (sample_mem isInt hInt s d hs hd)
    (sample_mem isInt hInt s d' hs hd') (sample_plain s d hs hd) (sample_plain s d' hs hd') h

def noNaNList : List (Num α) → Prop
  | [] => True
  | x :: xs => x ≠ .nan ∧ noNaNList xs

mutual
/-- no bound of any Box inside the space is NaN (implied by well-formedness) -/
def NoNaN : Space α → Prop
  | .box _ lo hi => noNaNList lo ∧ noNaNList hi
  | .discrete _ => True
  | .multiBinary _ => True
  | .multiDiscrete _ => True
  | .dict fs => NoNaNFields fs
  | .tuple ss => NoNaNList ss
def NoNaNFields : List (String × Space α) → Prop
  | [] => True
  | (_, s) :: fs => NoNaN s ∧ NoNaNFields fs
def NoNaNList : List (Space α) → Prop
  | [] => True
  | s :: ss => NoNaN s ∧ NoNaNList ss
end

theorem noNaN_of_all2_le (lo hi : List (Num α)) (hb : All2 (fun l h => l.le h = true) lo hi) :
    noNaNList lo ∧ noNaNList hi := by
  induction lo, hi, hb using all2_induction with
  | nil => exact ⟨trivial, trivial⟩
  | cons _ _ _ _ hle _ ih => exact ⟨⟨(ne_nan_of_le hle).1, ih.1⟩, ⟨(ne_nan_of_le hle).2, ih.2⟩⟩

mutual
theorem wellFormed_noNaN : ∀ (s : Space α), wellFormed s = true → NoNaN s
  | .box _ lo hi => fun hw =>
      noNaN_of_all2_le lo hi (boundsOk_le (Bool.and_eq_true_iff.1 hw).2)
  | .discrete _ | .multiBinary _ | .multiDiscrete _ => fun _ => trivial
  | .dict fs => fun hw => wellFormedFields_noNaN fs (Bool.and_eq_true_iff.1 hw).2
  | .tuple ss => fun hw => wellFormedList_noNaN ss (Bool.and_eq_true_iff.1 hw).2
theorem wellFormedFields_noNaN : ∀ (fs : List (String × Space α)),
    wellFormedFields fs = true → NoNaNFields fs
  | [] => fun _ => trivial
  | (_, s) :: fs => fun hw =>
      have hw := Bool.and_eq_true_iff.1 hw
      ⟨wellFormed_noNaN s hw.1, wellFormedFields_noNaN fs hw.2⟩
theorem wellFormedList_noNaN : ∀ (ss : List (Space α)), wellFormedList ss = true → NoNaNList ss
  | [] => fun _ => trivial
  | s :: ss => fun hw =>
      have hw := Bool.and_eq_true_iff.1 hw
      ⟨wellFormed_noNaN s hw.1, wellFormedList_noNaN ss hw.2⟩
end

/-- IEEE equality is equality of the denoted numbers (the sign of zero is forgotten) and is
    false for NaN -/
theorem eqv_iff_canon (a b : Num α) : a.eqv b = true ↔ a ≠ .nan ∧ a.canon = b.canon := by
  cases a with
  | fin _ | nzero =>
      cases b with
      | fin _ | nzero =>
          exact (eqv_iff_of_fin? rfl rfl).trans
            ⟨fun h => ⟨nofun, congrArg Num.fin h⟩, fun h => Num.fin.inj h.2⟩
      | _ => simp [Num.eqv, Num.le, Num.canon]
  | _ => cases b <;> simp [Num.eqv, Num.le, Num.canon]

theorem canon_canon (x : Num α) : x.canon.canon = x.canon := by cases x <;> simp [Num.canon]

theorem allEqv_iff : ∀ (a b : List (Num α)), noNaNList a →
    (allEqv a b = true ↔ a.map Num.canon = b.map Num.canon)
  | [], [] | [], _ :: _ | _ :: _, [] => by simp [allEqv]
  | x :: xs, y :: ys => fun h => by simp [allEqv, eqv_iff_canon, allEqv_iff xs ys h.2, h.1]

mutual
/-- **Equality holds exactly between spaces of equal structure and parameters**: `s == t` iff the
    two spaces coincide once the sign of zero bounds is forgotten (`-0.0` and `0.0` are the same
    number).  Needs: no NaN bound in `s` (a NaN bound makes a Box unequal to itself).
    (From here on the Boolean lemma of this name has to be written `_root_.beq_iff_eq`.) -/
theorem beq_iff_eq : ∀ (s t : Space α), NoNaN s → (beq s t = true ↔ canonSpace s = canonSpace t)
  | .box sh lo hi, t => fun hn => by
      cases t <;> simp [beq, canonSpace, allEqv_iff _ _ hn.1, allEqv_iff _ _ hn.2, and_assoc]
  | .discrete _, t | .multiBinary _, t | .multiDiscrete _, t => by
      intro _; cases t <;> simp [beq, canonSpace]
  | .dict fs, t => fun hn => by cases t <;> simp [beq, canonSpace, beqFields_iff_eq fs _ hn]
  | .tuple ss, t => fun hn => by cases t <;> simp [beq, canonSpace, beqList_iff_eq ss _ hn]
theorem beqFields_iff_eq : ∀ (fs gs : List (String × Space α)), NoNaNFields fs →
    (beqFields fs gs = true ↔ canonSpaceFields fs = canonSpaceFields gs)
  | [], [] | [], _ :: _ | _ :: _, [] => by simp [beqFields, canonSpaceFields]
  | (k, s) :: fs, (k', t) :: gs => fun hn => by
      simp [beqFields, canonSpaceFields, beq_iff_eq s t hn.1, beqFields_iff_eq fs gs hn.2, and_assoc]
theorem beqList_iff_eq : ∀ (ss ts : List (Space α)), NoNaNList ss →
    (beqList ss ts = true ↔ canonSpaceList ss = canonSpaceList ts)
  | [], [] | [], _ :: _ | _ :: _, [] => by simp [beqList, canonSpaceList]
  | s :: ss, t :: ts => fun hn => by
      simp [beqList, canonSpaceList, beq_iff_eq s t hn.1, beqList_iff_eq ss ts hn.2]
end

mutual
theorem hashKey_canonSpace : ∀ (s : Space α), hashKey (canonSpace s) = hashKey s
  | .box sh lo hi => by simp [canonSpace, hashKey, canon_canon]
  | .discrete _ | .multiBinary _ | .multiDiscrete _ => rfl
  | .dict fs => by simp [canonSpace, hashKey, hashKeyFields_canonSpace fs]
  | .tuple ss => by simp [canonSpace, hashKey, hashKeyList_canonSpace ss]
theorem hashKeyFields_canonSpace : ∀ (fs : List (String × Space α)),
    hashKeyFields (canonSpaceFields fs) = hashKeyFields fs
  | [] => rfl
  | (k, s) :: fs => by
      simp [canonSpaceFields, hashKeyFields, hashKey_canonSpace s, hashKeyFields_canonSpace fs]
theorem hashKeyList_canonSpace : ∀ (ss : List (Space α)),
    hashKeyList (canonSpaceList ss) = hashKeyList ss
  | [] => rfl
  | s :: ss => by
      simp [canonSpaceList, hashKeyList, hashKey_canonSpace s, hashKeyList_canonSpace ss]
end

/-- **Equality agrees with hashing**: equal spaces hash the same object. -/
theorem eq_hash (s t : Space α) (hn : NoNaN s) (h : beq s t = true) : hashKey s = hashKey t := by
  rw [← hashKey_canonSpace s, ← hashKey_canonSpace t, (beq_iff_eq s t hn).1 h]

theorem beq_refl (s : Space α) (hn : NoNaN s) : beq s s = true := (beq_iff_eq s s hn).2 rfl

theorem beq_iff_eq_wf (s t : Space α) (hw : wellFormed s = true) :
    beq s t = true ↔ canonSpace s = canonSpace t := beq_iff_eq s t (wellFormed_noNaN s hw)

theorem eq_hash_wf (s t : Space α) (hw : wellFormed s = true) (h : beq s t = true) :
    hashKey s = hashKey t := eq_hash s t (wellFormed_noNaN s hw) h

/-- Φ (`phiEq`) holds of the model's own answers -/
theorem phi_eq (s t : Space α) (hn : NoNaN s) (hashEq : Bool)
    (hh : hashKey s = hashKey t → hashEq = true) : phiEq s t (beq s t) hashEq = true := by
  simp only [phiEq, beq_self_eq_true, Bool.true_and, Bool.or_eq_true, Bool.not_eq_true']
  cases hb : beq s t with
  | false => simp
  | true => right; exact hh (eq_hash s t hn hb)

theorem ofGymFields_cons_eq_some {k : String} {g : GSpace α} {gs : List (String × GSpace α)}
    {fs : List (String × Space α)} : ofGymFields ((k, g) :: gs) = some fs ↔
      ∃ s fs', ofGym g = some s ∧ ofGymFields gs = some fs' ∧ fs = (k, s) :: fs' := by
  rw [ofGymFields]
  cases ofGym g <;> cases ofGymFields gs <;> simp [eq_comm]

theorem ofGymFields_insertKey (k : String) (g : GSpace α) (s : Space α) (hs : ofGym g = some s) :
    ∀ (gs : List (String × GSpace α)) (fs : List (String × Space α)),
    ofGymFields gs = some fs → ofGymFields (insertKey k g gs) = some (insertKey k s fs)
  | [], fs, h => by cases h; exact ofGymFields_cons_eq_some.2 ⟨s, [], hs, rfl, rfl⟩
  | (k', g') :: gs, fs, h => by
      obtain ⟨s', fs', hg, hr, rfl⟩ := ofGymFields_cons_eq_some.1 h
      rw [insertKey, insertKey]
      split_ifs
      · exact ofGymFields_cons_eq_some.2 ⟨s', _, hg, ofGymFields_insertKey k g s hs gs fs' hr, rfl⟩
      · exact ofGymFields_cons_eq_some.2 ⟨s, _, hs, h, rfl⟩

theorem ofGymFields_sort : ∀ (gs : List (String × GSpace α)) (fs : List (String × Space α)),
    ofGymFields gs = some fs → ofGymFields (sortKeysL gs) = some (sortKeysL fs)
  | [], fs, h => by cases h; rfl
  | (k, g) :: gs, fs, h => by
      obtain ⟨s, fs', hg, hr, rfl⟩ := ofGymFields_cons_eq_some.1 h
      exact ofGymFields_insertKey k g s hg _ _ (ofGymFields_sort gs fs' hr)

mutual
/-- **The round trip through Gymnasium returns the same space with every Dict's keys in
    Gymnasium's (sorted) order** — and never fails. -/
theorem gym_roundtrip : ∀ (s : Space α), ofGym (toGym s) = some (sortKeys s)
  | .box _ _ _ | .discrete _ | .multiDiscrete _ => rfl
  | .multiBinary [] | .multiBinary [_] | .multiBinary (_ :: _ :: _) => rfl
  | .dict fs => by
      simp only [toGym, ofGym, sortKeys]
      rw [ofGymFields_sort _ _ (gym_roundtripFields fs)]
  | .tuple ss => by
      simp only [toGym, ofGym, sortKeys]
      rw [gym_roundtripList ss]
theorem gym_roundtripFields : ∀ (fs : List (String × Space α)),
    ofGymFields (toGymFields fs) = some (sortKeysFields fs)
  | [] => rfl
  | (k, s) :: fs => by
      simp [toGymFields, ofGymFields, sortKeysFields, gym_roundtrip s, gym_roundtripFields fs]
theorem gym_roundtripList : ∀ (ss : List (Space α)),
    ofGymList (toGymList ss) = some (sortKeysList ss)
  | [] => rfl
  | s :: ss => by
      simp [toGymList, ofGymList, sortKeysList, gym_roundtrip s, gym_roundtripList ss]
end

/-! ### keys already in Gymnasium's order: the round trip is the identity -/

/-- keys listed in non-decreasing order -/
def sortedKeys {β : Type} : List (String × β) → Prop
  | [] => True
  | [_] => True
  | (k, _) :: (k', v') :: rest => ¬ k' < k ∧ sortedKeys ((k', v') :: rest)

theorem sortKeysL_of_sorted {β : Type} : ∀ (l : List (String × β)), sortedKeys l → sortKeysL l = l
  | [] | [_] => fun _ => rfl
  | (k, v) :: (k', v') :: rest => fun h => by
      rw [sortKeysL, sortKeysL_of_sorted _ h.2, insertKey, if_neg h.1]

mutual
/-- every Dict inside the space lists its keys in Gymnasium's order -/
def KeysSorted : Space α → Prop
  | .dict fs => sortedKeys fs ∧ KeysSortedFields fs
  | .tuple ss => KeysSortedList ss
  | _ => True
def KeysSortedFields : List (String × Space α) → Prop
  | [] => True
  | (_, s) :: fs => KeysSorted s ∧ KeysSortedFields fs
def KeysSortedList : List (Space α) → Prop
  | [] => True
  | s :: ss => KeysSorted s ∧ KeysSortedList ss
end

mutual
theorem sortKeys_of_sorted : ∀ (s : Space α), KeysSorted s → sortKeys s = s
  | .box _ _ _ | .discrete _ | .multiBinary _ | .multiDiscrete _ => fun _ => rfl
  | .dict fs => fun h => by
      rw [sortKeys, sortKeysFields_of_sorted fs h.2, sortKeysL_of_sorted fs h.1]
  | .tuple ss => fun h => congrArg Space.tuple (sortKeysList_of_sorted ss h)
theorem sortKeysFields_of_sorted : ∀ (fs : List (String × Space α)),
    KeysSortedFields fs → sortKeysFields fs = fs
  | [] => fun _ => rfl
  | (k, s) :: fs => fun h => by
      rw [sortKeysFields, sortKeys_of_sorted s h.1, sortKeysFields_of_sorted fs h.2]
theorem sortKeysList_of_sorted : ∀ (ss : List (Space α)), KeysSortedList ss → sortKeysList ss = ss
  | [] => fun _ => rfl
  | s :: ss => fun h => by
      rw [sortKeysList, sortKeys_of_sorted s h.1, sortKeysList_of_sorted ss h.2]
end

/-- **Equality survives the round trip** when the Dict keys are compared in Gymnasium's order:
    a space without NaN bounds whose keys are in that order comes back `==` to itself. -/
theorem gym_roundtrip_eq (s : Space α) (hn : NoNaN s) (hk : KeysSorted s) :
    ∃ back, ofGym (toGym s) = some back ∧ beq back s = true ∧ phiGym s back = true := by
  refine ⟨sortKeys s, gym_roundtrip s, ?_⟩
  -- `phiGym s back` is `beq back (sortKeys s)` by definition
  rw [phiGym, sortKeys_of_sorted s hk]
  exact ⟨beq_refl s hn, beq_refl s hn⟩

/-! ### keys in any order: the space that comes back equals the key-sorted original -/

theorem noNaNFields_insertKey (k : String) (s : Space α) (hs : NoNaN s) :
    ∀ (fs : List (String × Space α)), NoNaNFields fs → NoNaNFields (insertKey k s fs)
  | [] => fun _ => ⟨hs, trivial⟩
  | (k', s') :: fs => fun h => by
      simp only [insertKey]
      split_ifs
      · exact ⟨h.1, noNaNFields_insertKey k s hs fs h.2⟩
      · exact ⟨hs, h⟩

theorem noNaNFields_sort : ∀ (fs : List (String × Space α)), NoNaNFields fs →
    NoNaNFields (sortKeysL fs)
  | [] => fun _ => trivial
  | (k, s) :: fs => fun h => noNaNFields_insertKey k s h.1 _ (noNaNFields_sort fs h.2)

mutual
theorem noNaN_sortKeys : ∀ (s : Space α), NoNaN s → NoNaN (sortKeys s)
  | .box _ _ _ | .discrete _ | .multiBinary _ | .multiDiscrete _ => id
  | .dict fs => fun h => noNaNFields_sort _ (noNaNFields_sortKeys fs h)
  | .tuple ss => noNaNList_sortKeys ss
theorem noNaNFields_sortKeys : ∀ (fs : List (String × Space α)), NoNaNFields fs →
    NoNaNFields (sortKeysFields fs)
  | [] => fun _ => trivial
  | (_, s) :: fs => fun h => ⟨noNaN_sortKeys s h.1, noNaNFields_sortKeys fs h.2⟩
theorem noNaNList_sortKeys : ∀ (ss : List (Space α)), NoNaNList ss → NoNaNList (sortKeysList ss)
  | [] => fun _ => trivial
  | s :: ss => fun h => ⟨noNaN_sortKeys s h.1, noNaNList_sortKeys ss h.2⟩
end

/-- Φ (`phiGym`) holds of the model's round trip for every space without NaN bounds, whatever
    the order of its keys. -/
theorem phi_gym (s : Space α) (hn : NoNaN s) :
    ∃ back, ofGym (toGym s) = some back ∧ phiGym s back = true :=
  ⟨sortKeys s, gym_roundtrip s, beq_refl _ (noNaN_sortKeys s hn)⟩

/-! ## Integrality through `floor` (what `x == jnp.floor(x)` computes on finite numbers) -/

section Floor
variable [FloorRing α]

/-- `x == floor x` -/
def floorIsInt (x : α) : Bool := decide ((⌊x⌋ : α) = x)

theorem floorIsInt_natCast (k : ℕ) : floorIsInt (k : α) = true := by simp [floorIsInt]

/-- with `floor`-integrality, the index entries are exactly the natural numbers below `n` -/
theorem isIndex_iff_nat (x : Num α) (n : ℕ) :
    IsIndex floorIsInt x n ↔ ∃ k : ℕ, k < n ∧ x.fin? = some (k : α) := by
  constructor
  · rintro ⟨y, hy, hi, h0, hn⟩
    simp only [floorIsInt, decide_eq_true_eq] at hi
    obtain ⟨k, hk⟩ := Int.eq_ofNat_of_zero_le (Int.floor_nonneg.2 h0)
    have hyk : y = (k : α) := by rw [← hi, hk]; simp
    refine ⟨k, ?_, by rw [hy, hyk]⟩
    rw [hyk] at hn; exact_mod_cast hn
  · rintro ⟨k, hk, hx⟩
    exact ⟨k, hx, floorIsInt_natCast k, Nat.cast_nonneg k, by exact_mod_cast hk⟩

/-- `Discrete(n).contains(x)` is true exactly for scalars denoting one of `0, …, n-1` -/
theorem discrete_contains_iff (n : ℕ) (v : Val α) :
    contains floorIsInt (.discrete n) v = true ↔
      ∃ x, tryCast v = some ([], [x]) ∧ ∃ k : ℕ, k < n ∧ x.fin? = some (k : α) := by
  rw [contains_iff_mem]; simp only [Mem, isIndex_iff_nat]

/-- samples and canonical elements are members, with nothing assumed about `isInt` -/
theorem sample_mem_floor (s : Space α) (d : Draw α) (hw : wellFormed s = true) (hd : DrawOk s d) :
    contains floorIsInt s (sample s d) = true :=
  (contains_iff_mem _ _ _).2 (sample_mem _ floorIsInt_natCast s d hw hd)

theorem canonical_mem_floor (s : Space α) (hw : wellFormed s = true) :
    contains floorIsInt s (canonical s) = true :=
  (contains_iff_mem _ _ _).2 (canonical_mem _ (by simpa using floorIsInt_natCast (α := α) 0) s hw)

end Floor

end general

/-! ## The pre-repair behaviour violates the property (concrete witnesses over ℚ) -/

/-- integrality on ℚ -/
def ratIsInt (x : ℚ) : Bool := x.den == 1

theorem ratIsInt_natCast (k : ℕ) : ratIsInt (k : ℚ) = true := by simp [ratIsInt]

/-- old `MultiDiscrete.contains` accepted `[-1, 0]` for `MultiDiscrete((3, 4))` -/
theorem legacy_multiDiscrete_accepts_negative :
    ∃ v : Val ℚ, legacyMultiDiscreteContains ratIsInt [3, 4] v = true ∧
      ¬ Mem ratIsInt (.multiDiscrete [3, 4]) v := by
  refine ⟨.arr [2] [.fin (-1), .fin 0], by decide, ?_⟩
  rw [← contains_iff_mem]; decide

/-- old `MultiBinary((2,3)).contains` answered with an array of shape `(3,)` -/
theorem legacy_multiBinary_not_scalar :
    ∃ v : Val ℚ, Mem ratIsInt (.multiBinary [2, 3]) v ∧
      ∀ b, legacyMultiBinaryContainsR [2, 3] v ≠ .scalar b := by
  refine ⟨.arr [2, 3] [.fin 0, .fin 1, .fin 0, .fin 1, .fin 1, .fin 0], ?_, ?_⟩
  · rw [← contains_iff_mem]; decide
  · intro b; cases b <;> decide

/-- old `try_cast` let `ValueError` escape: the answer was no boolean at all -/
theorem legacy_tryCast_raises (answer b : Bool) : legacyLeafContainsR true answer ≠ .scalar b := by
  revert answer b; decide

/-- old `Tuple.__eq__`: a proper prefix compared equal -/
theorem legacy_tuple_eq_prefix :
    ∃ ss ts : List (Space ℚ), legacyBeqList beq ss ts = true ∧
      canonSpace (.tuple ss) ≠ canonSpace (.tuple ts) ∧ beq (.tuple ss) (.tuple ts) = false := by
  refine ⟨[.discrete 3], [.discrete 3, .discrete 2], by decide, ?_, by decide⟩
  simp [canonSpace, canonSpaceList]

/-- old `Dict.__eq__`: a Dict space was not even equal to itself; old `Dict.__hash__` raised -/
theorem legacy_dict_eq_irreflexive :
    ∃ fs : List (String × Space ℚ), legacyDictBeq fs fs = false ∧
      beq (.dict fs) (.dict fs) = true ∧ legacyDictHash fs = none :=
  ⟨[("a", .discrete 2)], rfl, by decide, rfl⟩

/-- old `Box.__hash__`: `Box(-0.0, 1) == Box(0.0, 1)` but the hashed bytes differ -/
theorem legacy_box_hash_disagrees :
    beq (.box [] [.nzero] [.fin (1 : ℚ)]) (.box [] [.fin 0] [.fin 1]) = true ∧
      legacyBoxHashKey [] [.nzero] [.fin (1 : ℚ)] ≠ legacyBoxHashKey [] [.fin 0] [.fin 1] ∧
      hashKey (.box [] [.nzero] [.fin (1 : ℚ)]) = hashKey (.box [] [.fin 0] [.fin 1]) := by
  refine ⟨by decide, by simp [legacyBoxHashKey], by simp [hashKey, Num.canon]⟩

/-- old `Box.canonical`: NaN for an unbounded entry, which is not a member -/
theorem legacy_box_canonical_not_member :
    legacyCanonicalEntry (.ninf : Num ℚ) .pinf = .nan ∧
      ¬ Mem ratIsInt (.box [1] [.ninf] [.pinf]) (.arr [1] [legacyCanonicalEntry (.ninf : Num ℚ) .pinf]) ∧
      Mem ratIsInt (.box [1] [.ninf] [.pinf]) (canonical (.box [1] [(.ninf : Num ℚ)] [.pinf])) := by
  refine ⟨rfl, ?_, ?_⟩
  · rw [← contains_iff_mem]; decide
  · rw [← contains_iff_mem]; decide

/-- old `Dict.flatten_sample`: raised for the Dict space without keys (whose `flat_size` is 0) -/
theorem legacy_dict_flatten_empty :
    legacyDictFlattenLength ([] : List (String × Space ℚ)) = none ∧
      (flatten (.dict ([] : List (String × Space ℚ))) (.odict [])).length = flatSize (.dict ([] : List (String × Space ℚ))) :=
  ⟨rfl, rfl⟩

/-! ### pre-repair `Discrete.contains` with narrow integer candidates

  `0 <= x < self.n` compared a `bits`-wide unsigned (or signed) candidate `x` with the Python int `n`,
  which JAX's weak typing cast to the candidate's dtype, i.e. reduced modulo `2^bits` (signed: into
  `[-2^(bits-1), 2^(bits-1))`).  Membership is about the value: the repaired code compares with `n` as a
  default-integer array. -/

/-- old upper-bound test for an unsigned `bits`-wide candidate -/
def legacyDiscreteContainsU (bits n x : Nat) : Bool := decide (x < n % 2 ^ bits)

/-- old upper-bound test for a signed `bits`-wide candidate (`n` wrapped into the signed range) -/
def legacyDiscreteContainsS (bits : Nat) (n : Nat) (x : Int) : Bool :=
  let w : Int := ((n : Int) + 2 ^ (bits - 1)) % 2 ^ bits - 2 ^ (bits - 1)
  decide (0 ≤ x ∧ x < w)

/-- `Discrete(300)` rejected the member 200 given as `uint8`, `Discrete(200)` the member 100 given as
    `int8`; the model (`contains`, value-based) accepts both -/
theorem legacy_discrete_rejects_narrow_members :
    legacyDiscreteContainsU 8 300 200 = false ∧ legacyDiscreteContainsS 8 200 100 = false ∧
    contains ratIsInt (.discrete 300) (.arr [] [.fin (200 : ℚ)]) = true ∧
    contains ratIsInt (.discrete 200) (.arr [] [.fin (100 : ℚ)]) = true := by decide

/-- for sizes that fit the candidate's dtype the old test was right -/
theorem legacy_discrete_ok_when_n_fits (bits n x : Nat) (hn : n < 2 ^ bits) :
    legacyDiscreteContainsU bits n x = decide (x < n) := by
  simp [legacyDiscreteContainsU, Nat.mod_eq_of_lt hn]

/-- pre-repair conversion of a 64-bit integer without x64: truncation to 32-bit two's complement
    (integers wider than the default integer type; repaired by /repo cd1fcd0) -/
def wrap32 (v : Int) : Int := (v + 2147483648) % 4294967296 - 2147483648
/-- pre-repair `Discrete(n).contains` on a 64-bit integer candidate: the test ran on the wrapped value -/
def legacyDiscreteContainsWide (n : Nat) (v : Int) : Bool := decide (0 ≤ wrap32 v) && decide (wrap32 v < (n : Int))

/-- every value that differs from a member by a multiple of 2^32 was accepted (e.g. 2^32 + 1 by
    `Discrete(5)`), although it is not one of 0, …, n-1 -/
theorem legacy_discrete_accepts_wrapped (n : Nat) (k : Nat) (m : Int) (hk : k < n) (hn : n ≤ 2147483648) :
    legacyDiscreteContainsWide n (m * 4294967296 + k) = true := by
  have hw : wrap32 (m * 4294967296 + k) = k := by
    unfold wrap32
    omega
  rw [legacyDiscreteContainsWide, hw, Bool.and_eq_true]
  exact ⟨decide_eq_true (Int.natCast_nonneg k), decide_eq_true (Int.ofNat_lt.2 hk)⟩

theorem legacy_discrete_accepts_2pow32_plus_1 : legacyDiscreteContainsWide 5 (2 ^ 32 + 1) = true := by decide

/-- `Tuple((Discrete(3), Dict({"b": Box([0,-inf],[1,inf]), "a": MultiBinary(2)}), MultiDiscrete((2,5))))` -/
def exSpace : Space ℚ :=
  .tuple [.discrete 3,
          .dict [("b", .box [2] [.fin 0, .ninf] [.fin 1, .pinf]), ("a", .multiBinary [2])],
          .multiDiscrete [2, 5]]

def exDraw : Draw ℚ :=
  .node [.index 2, .node [.box [0, 0] [0, 3] [0, 0], .bits [true, false]], .indices [1, 4]]

example : wellFormed exSpace = true := by decide

theorem exDraw_ok : DrawOk exSpace exDraw := by
  simp [exSpace, exDraw, DrawOk, DrawOkList, DrawOkFields, boxDrawsOk, All2, prod]

example : DrawOk exSpace exDraw := exDraw_ok

example : Mem ratIsInt exSpace (sample exSpace exDraw) :=
  sample_mem ratIsInt ratIsInt_natCast exSpace exDraw (by decide) exDraw_ok

example : contains ratIsInt exSpace (canonical exSpace) = true :=
  (contains_iff_mem _ _ _).2 (canonical_mem ratIsInt (by decide) exSpace (by decide))
example : (flatten exSpace (canonical exSpace)).length = 7 ∧ flatSize exSpace = 7 := by decide
example : NoNaN exSpace := wellFormed_noNaN exSpace (by decide)
/-- the round trip sorts the keys `b, a` into `a, b` -/
example : ofGym (toGym exSpace) = some (.tuple [.discrete 3,
    .dict [("a", .multiBinary [2]), ("b", .box [2] [.fin 0, .ninf] [.fin 1, .pinf])],
    .multiDiscrete [2, 5]]) := by
  rw [gym_roundtrip]; rfl
/-- a permuted `OrderedDict`, given as lists, is a member; a plain dict / a negative index is not -/
example : contains ratIsInt (.dict [("b", .discrete 2), ("a", .multiDiscrete [2, 2])])
    (.odict [("a", .list [.arr [] [.fin 1], .arr [] [.nzero]]), ("b", .arr [] [.fin 1])]) = true := by decide
example : contains ratIsInt (.dict [("b", .discrete 2)]) (.pdict [("b", .arr [] [.fin (1 : ℚ)])]) = false := by decide
example : contains ratIsInt (.discrete 2) (.arr [] [.fin (-1 : ℚ)]) = false := by decide
example : contains ratIsInt (.discrete 2) (.list [.arr [] [.fin (1 : ℚ)], .list []]) = false := by decide

end Lerax.C14
