/-
  One on-policy iteration end to end (C04 ∘ C03 ∘ C09 ∘ C08 ∘ C12), over `LeraxModel/PpoIter.lean`.
  Whatever the environments, rollout length, minibatch size and permutation, every entry that an
  epoch hands to the loss is a collected row paired with the advantage and return of its own step
  of its own environment's rollout; hence, while the collecting policy is unchanged, *every*
  minibatch is on-policy (all ratios 1, approximate KL 0, policy loss −mean(Â)) — the first
  gradient step of every iteration is the on-policy policy gradient.
-/
import LeraxModel.PpoIter
import LeraxProofs.C04
import LeraxProofs.C08
import LeraxProofs.C09
import LeraxProofs.ListFacts
import LeraxProofs.Pipeline

namespace Lerax.PipelineOn
open Lerax.Env Lerax.OnPolicy Lerax.Gae Lerax.Batching Lerax.Loss Lerax.PpoIter

section batching
variable {ρ : Type}

/-- every entry of every minibatch is entry `t` of row `e` of the buffer for some `e < E`, `t < T`
    (namely `e = i / T`, `t = i % T` for its flat index `i`) -/
theorem epoch_entry (T : Nat) (buffer : List (List ρ)) (hT : ∀ row ∈ buffer, row.length = T)
    (B : Nat) (hB : 0 < B) (perm : List Nat) (hperm : perm.Perm (List.range (buffer.length * T))) :
    ∀ mb ∈ epoch buffer perm B, ∀ x ∈ mb,
      ∃ e t, e < buffer.length ∧ t < T ∧ x = (buffer[e]?).bind (·[t]?) := by
  intro mb hmb x hx
  obtain ⟨-, -, -, hlt, -, -⟩ := Lerax.C09.batch_partition _ B hB perm hperm
  obtain ⟨r, hr, rfl⟩ := Lerax.C09.mem_epoch.mp hmb
  obtain ⟨i, hi, rfl⟩ := List.mem_map.mp hx
  have hiN : i < buffer.length * T := hlt i (List.mem_flatten.mpr ⟨r, hr, hi⟩)
  have ht : i % T < T := Nat.mod_lt _ (Nat.pos_of_lt_mul_left hiN)
  refine ⟨i / T, i % T, (Nat.div_lt_iff_lt_mul (Nat.pos_of_lt_mul_left hiN)).mpr hiN, ht, ?_⟩
  rw [← ListFacts.getElem?_flatten_uniform T buffer hT _ _ ht, Nat.div_add_mod']
  rfl

/-- **C09, composed.**  Every element of every minibatch of an epoch over an `E × T` buffer is the
    buffer's sample `(e, t)` for some `e < E`, `t < T` — whole, and addressed by a flat index that
    occurs only once in the epoch. -/
theorem epoch_rows_are_buffer_entries (T : Nat) (buffer : List (List ρ))
    (hT : ∀ row ∈ buffer, row.length = T) (B : Nat) (hB : 0 < B) (perm : List Nat)
    (hperm : perm.Perm (List.range (buffer.length * T))) :
    (∀ mb ∈ epoch buffer perm B, ∀ x ∈ mb,
        ∃ (e t : Nat) (he : e < buffer.length) (ht : t < buffer[e].length), x = some (buffer[e][t])) ∧
    (batchIndices perm B).flatten.Nodup := by
  obtain ⟨-, -, hnodup, -, -, -⟩ := Lerax.C09.batch_partition _ B hB perm hperm
  refine ⟨fun mb hmb x hx => ?_, hnodup⟩
  obtain ⟨e, t, he, ht, rfl⟩ := epoch_entry T buffer hT B hB perm hperm mb hmb x hx
  have ht' : t < buffer[e].length := (hT _ (List.getElem_mem he)).symm ▸ ht
  exact ⟨e, t, he, ht', by
    rw [List.getElem?_eq_getElem he, Option.bind_some, List.getElem?_eq_getElem ht']⟩

end batching

section annotate
variable {S A O K PS M α : Type} [Keys K] [CommRing α]

theorem annotate_eq (γ lam : α) (rows : List (Row PS O A M α)) (last : α) :
    annotate γ lam rows last = rows.zip ((Pipeline.gaeOfRows γ lam rows last).advantages.zip
      (Pipeline.gaeOfRows γ lam rows last).returns) := rfl

theorem annotate_rows (γ lam : α) (rows : List (Row PS O A M α)) (last : α) :
    (annotate γ lam rows last).map (·.1) = rows := by
  have h := Pipeline.gaeOfRows_lengths γ lam rows last
  rw [annotate_eq]
  exact List.map_fst_zip (by rw [List.length_zip, h.1, h.2, Nat.min_self])

theorem annotate_length (γ lam : α) (rows : List (Row PS O A M α)) (last : α) :
    (annotate γ lam rows last).length = rows.length := by
  rw [← List.length_map (·.1), annotate_rows]

/-- **C03 ∘ C04.**  Sample `t` of a processed rollout is collected row `t` with the advantage and
    return that GAE assigns to step `t` of that very rollout. -/
theorem annotate_spec (γ lam : α) (rows : List (Row PS O A M α)) (last : α) (t : Nat) (ht : t < rows.length) :
    (annotate γ lam rows last)[t]? = some (rows[t],
      (gae γ lam (rows.map (·.reward)) (rows.map (·.value)) (rows.map (·.done)) last).advantages.getD t 0,
      (gae γ lam (rows.map (·.reward)) (rows.map (·.value)) (rows.map (·.done)) last).returns.getD t 0) := by
  have h := Pipeline.gaeOfRows_lengths γ lam rows last
  have key : ∀ l : List α, l.length = rows.length → l[t]? = some (l.getD t 0) := fun l hl => by
    rw [List.getD_eq_getElem?_getD, List.getElem?_eq_getElem (hl ▸ ht), Option.getD_some]
  rw [annotate_eq, List.getElem?_zip_eq_some, List.getElem?_zip_eq_some]
  exact ⟨List.getElem?_eq_getElem ht, key _ h.1, key _ h.2⟩

variable (E : Env S A O α K) (mask : S → K → Option M) (clip : A → A) (P : Policy PS O A M α K)

/-- the rows of a processed rollout are the collected rows, in order -/
theorem collectAndProcess_rows (γ lam : α) (st : StepState S PS) (stepKeys : List K) (postKey : K) :
    (collectAndProcess E mask clip P γ lam st stepKeys postKey).2.map (·.1) =
      (collectRollout E mask clip P γ st stepKeys).2 :=
  annotate_rows γ lam _ _

/-- **C12, for the whole collection of an iteration.**  Environment `i`'s part of the training
    buffer is determined by environment `i`'s own step state and keys. -/
theorem iteration_stream_independent (γ lam : α) (envs envs' : List (StepState S PS × List K × K))
    (i : Nat) (h : envs[i]? = envs'[i]?) :
    (iterationBuffer E mask clip P γ lam envs)[i]? = (iterationBuffer E mask clip P γ lam envs')[i]? := by
  rw [iterationBuffer, iterationBuffer, List.getElem?_map, List.getElem?_map, h]

/-- every environment's processed rollout has `T` samples when every environment got `T` step keys -/
theorem iterationBuffer_uniform (γ lam : α) (envs : List (StepState S PS × List K × K)) (T : Nat)
    (hT : ∀ e ∈ envs, e.2.1.length = T) :
    ∀ row ∈ iterationBuffer E mask clip P γ lam envs, row.length = T :=
  List.forall_mem_map.mpr fun e he =>
    (annotate_length γ lam _ _).trans ((Lerax.C04.rollout_length E mask clip P γ _ _).trans (hT e he))

/-- **C04 ∘ C03 ∘ C09.**  Every sample that reaches the loss in an epoch is, for some environment
    `e` and step `t`, that environment's collected row `t` paired with the advantage and return GAE
    assigns to step `t` of environment `e`'s own rollout (bootstrapped with the policy's value of
    environment `e`'s own final observation). -/
theorem minibatch_samples_are_annotated_rows (γ lam : α) (envs : List (StepState S PS × List K × K)) (T : Nat)
    (hT : ∀ e ∈ envs, e.2.1.length = T) (B : Nat) (hB : 0 < B) (perm : List Nat)
    (hperm : perm.Perm (List.range (envs.length * T))) :
    ∀ mb ∈ epoch (iterationBuffer E mask clip P γ lam envs) perm B, ∀ x ∈ mb,
      ∃ (e t : Nat) (he : e < envs.length),
        let rows := (collectRollout E mask clip P γ envs[e].1 envs[e].2.1).2
        let stN := (collectRollout E mask clip P γ envs[e].1 envs[e].2.1).1
        let last := P.value stN.policy (E.observation stN.env envs[e].2.2)
        let out := gae γ lam (rows.map (·.reward)) (rows.map (·.value)) (rows.map (·.done)) last
        ∃ (ht : t < rows.length), x = some (rows[t], out.advantages.getD t 0, out.returns.getD t 0) := by
  intro mb hmb x hx
  have hlen : (iterationBuffer E mask clip P γ lam envs).length = envs.length := List.length_map _
  obtain ⟨e, t, he, ht, rfl⟩ := epoch_entry T _ (iterationBuffer_uniform E mask clip P γ lam envs T hT)
    B hB perm (hlen.symm ▸ hperm) mb hmb x hx
  rw [hlen] at he
  have htr : t < (collectRollout E mask clip P γ envs[e].1 envs[e].2.1).2.length := by
    rw [Lerax.C04.rollout_length, hT _ (List.getElem_mem he)]
    exact ht
  refine ⟨e, t, he, htr, ?_⟩
  rw [iterationBuffer, List.getElem?_map, List.getElem?_eq_getElem he, Option.map_some,
    Option.bind_some]
  exact annotate_spec γ lam _ _ t htr

end annotate

section onpolicy
variable {S A O K PS M α : Type} [Keys K] [Field α] [LinearOrder α] [IsStrictOrderedRing α]
variable (E : Env S A O α K) (mask : S → K → Option M) (clip : A → A) (P : Policy PS O A M α K)

/-- **C04 ∘ C09 ∘ C08.**  Take any coherent policy, collect any number of environments for any
    number of steps, process, shuffle with any permutation, cut into minibatches of any size `B`:
    for EVERY minibatch, the PPO loss evaluated with the *same* policy has approximate KL 0 and
    policy loss `−mean(Â)` (all ratios are 1), whatever the entropies, clip coefficient ε ≥ 0 and
    advantage normalisation. -/
theorem any_minibatch_of_unchanged_policy_is_on_policy (hP : Lerax.C04.Coherent P) (γ lam : α)
    (envs : List (StepState S PS × List K × K)) (T : Nat) (hT : ∀ e ∈ envs, e.2.1.length = T)
    (B : Nat) (hB : 0 < B) (perm : List Nat) (hperm : perm.Perm (List.range (envs.length * T)))
    (exp sqrt : α → α) (hexp : exp 0 = 1) (cfg : Cfg α) (hε : 0 ≤ cfg.clipCoef)
    (ent : Row PS O A M α → α) :
    ∀ mb ∈ epoch (iterationBuffer E mask clip P γ lam envs) perm B,
      let b := lossSamples P ent (mb.filterMap id)
      (ppoLoss exp sqrt cfg b).approxKl = 0 ∧
      (ppoLoss exp sqrt cfg b).policyLoss = - mean (advantages sqrt cfg b) := by
  intro mb hmb b
  have hrows := minibatch_samples_are_annotated_rows E mask clip P γ lam envs T hT B hB perm hperm mb hmb
  -- the minibatch is non-empty: it has exactly B > 0 entries, all of them `some`
  have hb : b ≠ [] := by
    obtain ⟨r, hr, hmbr⟩ := Lerax.C09.mem_epoch.mp hmb
    obtain ⟨-, hrowlen, -, -, -, -⟩ := Lerax.C09.batch_partition _ B hB perm hperm
    have hsome : ∀ x ∈ mb, (id x).isSome := fun x hx => by
      obtain ⟨e, t, he, ht, rfl⟩ := hrows x hx
      rfl
    apply List.ne_nil_of_length_pos
    show 0 < (List.map _ _).length
    rw [List.length_map, List.filterMap_length_eq_length.mpr hsome, ← hmbr, Lerax.C09.gather_length,
      hrowlen r hr]
    exact hB
  have hsame : ∀ s ∈ b, s.logpNew = s.logpOld := by
    intro s hs
    simp only [b, lossSamples, List.mem_map, List.mem_filterMap, id] at hs
    obtain ⟨y, ⟨a, hy, rfl⟩, rfl⟩ := hs
    obtain ⟨e, t, he, ht, hxe⟩ := hrows (some y) hy
    cases hxe
    exact congrArg Prod.snd (Lerax.Pipeline.rollout_rows_reevaluate E mask clip P hP γ envs[e].1
      envs[e].2.1 _ (List.getElem_mem ht))
  exact (Lerax.C08.on_policy_ratio_one exp sqrt hexp cfg hε b hb hsame).2

end onpolicy

/-! ### non-vacuity: two toy environments, three steps each, minibatches of two -/

open Lerax.C04 in
example :
    let envs : List (StepState Nat Unit × List Nat × Nat) := [(⟨0, ()⟩, [1, 2, 3], 9), (⟨1, ()⟩, [4, 5, 6], 9)]
    let buf := iterationBuffer toyEnv (fun _ _ => (none : Option Unit)) (fun a => a) toyPolicy (1 : Int) 1 envs
    (buf.map List.length = [3, 3]) ∧
    ((epoch buf [5, 0, 3, 1, 4, 2] 2).map (fun mb => mb.map (fun x => x.map (fun y => y.2.1)))).length = 3 := by
  decide

end Lerax.PipelineOn
