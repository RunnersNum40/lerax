/-
  C08 — On-policy losses equal the published objectives (PPO clip, A2C, REINFORCE).

  The model's `minA/maxA/clipA/mean/sq` are first identified with `min`, `max`, `min (max x lo) hi`,
  the average and the square; each loss field is then its per-sample lemma (`surrogate_eq`,
  `valueErr_true/false`) under `List.map`.  Global-norm clipping comes last.  Of the rest of the model
  only the per-sample partial `dPolicy` and `clipByGlobalNorm` have theorems here; `dValue`,
  `adamFirstStep`, `adamRun`, `clipThenAdam` are compared with the implementation by the driver only.
-/
import LeraxModel.Loss
import LeraxProofs.Clip
import Mathlib.Algebra.Order.Field.Basic
import Mathlib.Tactic.Ring
import Mathlib.Analysis.Calculus.Deriv.Basic

namespace Lerax.C08
open Lerax.Loss

section order
variable {α : Type} [LinearOrder α]

theorem maxA_eq_max (a b : α) : maxA a b = max a b := ite_lt_eq_max a b

theorem minA_eq_min (a b : α) : minA a b = min a b := ite_lt_eq_min a b

theorem clipA_eq_min_max (lo hi x : α) : clipA lo hi x = min (max x lo) hi := by
  rw [clipA, maxA_eq_max, minA_eq_min]

theorem clipA_of_ge {lo hi x : α} (hx : hi ≤ x) : clipA lo hi x = hi := by
  rw [clipA_eq_min_max, min_eq_right (le_max_of_le_left hx)]

theorem clipA_of_le {lo hi x : α} (h : lo ≤ hi) (hx : x ≤ lo) : clipA lo hi x = lo := by
  rw [clipA_eq_min_max, max_eq_right hx, min_eq_left h]

end order

section field
variable {α : Type} [Field α]

theorem sq_eq (x : α) : Loss.sq x = x ^ 2 := (pow_two x).symm

theorem mean_eq (xs : List α) : mean xs = xs.sum / xs.length := by
  rw [mean, List.sum_eq_foldl]

theorem advantages_length (sqrt : α → α) (cfg : Cfg α) (b : List (Sample α)) :
    (advantages sqrt cfg b).length = b.length := by
  unfold advantages normalizeAdv
  split <;> simp only [List.length_map]

theorem normSq_eq (g : List α) : normSq g = (g.map (fun x => x * x)).sum := by
  rw [normSq, ← List.sum_eq_foldl]
  rfl

theorem normSq_scale (g : List α) (c : α) : normSq (g.map (fun x => x * c)) = normSq g * (c * c) := by
  rw [normSq_eq, normSq_eq, List.map_map, ← List.sum_map_mul_right]
  exact congrArg List.sum (List.map_congr_left fun x _ => mul_mul_mul_comm x c x c)

end field

section ordered
variable {α : Type} [Field α] [LinearOrder α]

theorem clipByGlobalNorm_of_lt {sqrt : α → α} {maxNorm : α} {g : List α}
    (h : sqrt (normSq g) < maxNorm) : clipByGlobalNorm sqrt maxNorm g = g := if_pos h

theorem clipByGlobalNorm_of_not_lt {sqrt : α → α} {maxNorm : α} {g : List α}
    (h : ¬ sqrt (normSq g) < maxNorm) :
    clipByGlobalNorm sqrt maxNorm g = g.map (fun x => x * (maxNorm / sqrt (normSq g))) :=
  (if_neg h).trans (List.map_congr_left fun x _ => by rw [div_mul_eq_mul_div, mul_div_assoc])

/-- clipped surrogate of one sample: `min(r·A, clip(r, 1−ε, 1+ε)·A)` -/
def clipObjective (ε r A : α) : α := min (r * A) (min (max r (1 - ε)) (1 + ε) * A)

theorem surrogate_eq (ε A r : α) : surrogate ε A r = clipObjective ε r A := by
  rw [surrogate, clipA_eq_min_max, minA_eq_min, clipObjective, mul_comm A, mul_comm A]

theorem valueErr_false (ε v v₀ R : α) : valueErr false ε v v₀ R = (v - R) ^ 2 := by
  rw [valueErr, if_neg Bool.false_ne_true, sq_eq]

theorem valueErr_true (ε v v₀ R : α) :
    valueErr true ε v v₀ R = max ((v - R) ^ 2) ((v₀ + min (max (v - v₀) (-ε)) ε - R) ^ 2) := by
  simp only [valueErr, if_true, maxA_eq_max, clipA_eq_min_max, sq_eq]

variable (exp sqrt : α → α) (cfg : Cfg α) (b : List (Sample α))

theorem ppoLoss_policyLoss :
    (ppoLoss exp sqrt cfg b).policyLoss = - mean (List.zipWith (surrogate cfg.clipCoef)
      (advantages sqrt cfg b) ((b.map fun s => s.logpNew - s.logpOld).map exp)) := rfl

theorem ppoLoss_valueLoss :
    (ppoLoss exp sqrt cfg b).valueLoss =
      mean (b.map fun s => valueErr cfg.clipValue cfg.clipCoef s.vNew s.vOld s.ret) / ((2 : ℕ) : α) :=
  rfl

theorem ppoLoss_entropyLoss : (ppoLoss exp sqrt cfg b).entropyLoss = - mean (b.map (·.entropy)) := rfl

theorem ppoLoss_approxKl :
    (ppoLoss exp sqrt cfg b).approxKl = mean (List.zipWith (fun r l => r - l)
      ((b.map fun s => s.logpNew - s.logpOld).map exp) (b.map fun s => s.logpNew - s.logpOld)) - 1 := rfl

end ordered

set_option linter.unusedSectionVars false

variable {α : Type} [Field α] [LinearOrder α] [IsStrictOrderedRing α]

theorem clip_interval (ε : α) (hε : 0 ≤ ε) : 1 - ε ≤ 1 ∧ 1 ≤ 1 + ε :=
  ⟨sub_le_self 1 hε, le_add_of_nonneg_right hε⟩

theorem mean_replicate {n : Nat} (hn : n ≠ 0) (c : α) : mean (List.replicate n c) = c := by
  rw [mean_eq, List.sum_replicate, List.length_replicate, nsmul_eq_mul,
    mul_div_cancel_left₀ c (Nat.cast_ne_zero.mpr hn)]

/-- **PPO policy loss = `−E[min(r·A, clip(r,1−ε,1+ε)·A)]`** with `r = exp(logπ_new − logπ_old)`
    and `A` the (optionally normalised) advantages. -/
theorem ppo_policy_loss_eq_clip_objective (exp sqrt : α → α) (cfg : Cfg α) (b : List (Sample α)) :
    (ppoLoss exp sqrt cfg b).policyLoss =
      - ((List.zipWith (fun A r => clipObjective cfg.clipCoef r A) (advantages sqrt cfg b)
          (b.map (fun s => exp (s.logpNew - s.logpOld)))).sum / ((advantages sqrt cfg b).zipWith
            (fun A r => clipObjective cfg.clipCoef r A) (b.map (fun s => exp (s.logpNew - s.logpOld)))).length) := by
  rw [ppoLoss_policyLoss, mean_eq, List.map_map, funext₂ (surrogate_eq cfg.clipCoef)]
  rfl  -- `List.map_map` leaves `exp ∘ _`, the statement has it η-expanded

/-- **Unclipped value loss = half the mean squared value error.** -/
theorem ppo_value_loss_unclipped (exp sqrt : α → α) (cfg : Cfg α) (b : List (Sample α))
    (h : cfg.clipValue = false) :
    (ppoLoss exp sqrt cfg b).valueLoss = (b.map (fun s => (s.vNew - s.ret) ^ 2)).sum / b.length / 2 := by
  simp only [ppoLoss_valueLoss, h, valueErr_false, mean_eq, List.length_map, Nat.cast_ofNat]

/-- **With value clipping on, the loss is the LARGER of the clipped and unclipped errors (PPO2).** -/
theorem ppo_value_loss_clipped_is_max (exp sqrt : α → α) (cfg : Cfg α) (b : List (Sample α))
    (h : cfg.clipValue = true) :
    (ppoLoss exp sqrt cfg b).valueLoss =
      (b.map (fun s => max ((s.vNew - s.ret) ^ 2)
        ((s.vOld + min (max (s.vNew - s.vOld) (-cfg.clipCoef)) cfg.clipCoef - s.ret) ^ 2))).sum
        / b.length / 2 := by
  simp only [ppoLoss_valueLoss, h, valueErr_true, mean_eq, List.length_map, Nat.cast_ofNat]

/-- the total is the weighted sum of the three terms -/
theorem total_is_weighted_sum (exp sqrt : α → α) (cfg : Cfg α) (b : List (Sample α)) :
    let o := ppoLoss exp sqrt cfg b
    o.loss = o.policyLoss + o.valueLoss * cfg.valueCoef + o.entropyLoss * cfg.entropyCoef ∧
    o.entropyLoss = - ((b.map (·.entropy)).sum / b.length) :=
  ⟨rfl, by rw [ppoLoss_entropyLoss, mean_eq, List.length_map]⟩

/-- For `A ≥ 0` the per-sample term is constant in the ratio on `[1+ε, ∞)`; for `A ≤ 0` it is
    constant on `(−∞, 1−ε]` (given `0 ≤ ε`). -/
theorem clipped_sample_constant (ε A r : α) (hε : 0 ≤ ε) :
    (0 ≤ A → 1 + ε ≤ r → surrogate ε A r = A * (1 + ε)) ∧
    (A ≤ 0 → r ≤ 1 - ε → surrogate ε A r = A * (1 - ε)) := by
  constructor
  · intro hA hr
    rw [surrogate, clipA_of_ge hr, minA_eq_min]
    exact min_eq_right (mul_le_mul_of_nonneg_left hr hA)
  · intro hA hr
    obtain ⟨h1, h2⟩ := clip_interval ε hε
    rw [surrogate, clipA_of_le (h1.trans h2) hr, minA_eq_min]
    exact min_eq_right (mul_le_mul_of_nonpos_left hr hA)

/-- … hence its derivative with respect to the ratio (and so with respect to the new
    log-probability) vanishes in the interior of those regions. -/
theorem clipped_sample_no_gradient (ε A r : ℝ) (hε : 0 ≤ ε) :
    (0 ≤ A → 1 + ε < r → HasDerivAt (fun r => surrogate ε A r) 0 r) ∧
    (A ≤ 0 → r < 1 - ε → HasDerivAt (fun r => surrogate ε A r) 0 r) := by
  constructor
  · intro hA hr
    exact (hasDerivAt_const r (A * (1 + ε))).congr_of_eventuallyEq
      ((lt_mem_nhds hr).mono fun x hx => (clipped_sample_constant ε A x hε).1 hA hx.le)
  · intro hA hr
    exact (hasDerivAt_const r (A * (1 - ε))).congr_of_eventuallyEq
      ((gt_mem_nhds hr).mono fun x hx => (clipped_sample_constant ε A x hε).2 hA hx.le)

/-- the model's per-sample partial `dPolicy` is zero exactly there -/
theorem dPolicy_zero_when_clipped (ε A r : α) (n : Nat) (hε : 0 ≤ ε) :
    (0 ≤ A → 1 + ε < r → dPolicy ε A r n = 0) ∧ (A ≤ 0 → r < 1 - ε → dPolicy ε A r n = 0) := by
  constructor
  · intro hA hr
    have h3 : ¬ (A * r < A * (1 + ε)) := not_lt.mpr (mul_le_mul_of_nonneg_left hr.le hA)
    simp [dPolicy, clipA_of_ge hr.le, hr, h3]
  · intro hA hr
    have h3 : ¬ (A * r < A * (1 - ε)) := not_lt.mpr (mul_le_mul_of_nonpos_left hr.le hA)
    obtain ⟨h1, h2⟩ := clip_interval ε hε
    simp [dPolicy, clipA_of_le (h1.trans h2) hr.le, hr, h3]

theorem surrogate_one (ε A : α) (hε : 0 ≤ ε) : surrogate ε A 1 = A := by
  obtain ⟨h1, h2⟩ := clip_interval ε hε
  rw [surrogate_eq, clipObjective, max_eq_left h1, min_eq_left h2, min_self, one_mul]

/-- **On-policy data**: if the new log-probs equal the stored ones then every ratio is 1, the
    approximate KL is 0 and the policy loss is `−mean(A)` (uses only `exp 0 = 1`, `0 ≤ ε`). -/
theorem on_policy_ratio_one (exp sqrt : α → α) (hexp : exp 0 = 1) (cfg : Cfg α) (hε : 0 ≤ cfg.clipCoef)
    (b : List (Sample α)) (hne : b ≠ []) (hsame : ∀ s ∈ b, s.logpNew = s.logpOld) :
    (∀ s ∈ b, exp (s.logpNew - s.logpOld) = 1) ∧
    (ppoLoss exp sqrt cfg b).approxKl = 0 ∧
    (ppoLoss exp sqrt cfg b).policyLoss = - mean (advantages sqrt cfg b) := by
  have hlog : b.map (fun s => s.logpNew - s.logpOld) = List.replicate b.length 0 := by
    rw [← List.map_const']
    exact List.map_congr_left fun s hs => by rw [hsame s hs, sub_self]
  refine ⟨fun s hs => by rw [hsame s hs, sub_self, hexp], ?_, ?_⟩
  · -- `mean (replicate |b| (1 - 0)) - 1` (`zipWith_replicate` leaves a `min |b| |b|`)
    rw [ppoLoss_approxKl, hlog, List.map_replicate, hexp, List.zipWith_replicate, min_self, sub_zero,
      mean_replicate (mt List.length_eq_zero_iff.mp hne), sub_self]
  · -- `zipWith f xs (replicate |xs| 1) = xs.map (f · 1)`, and `surrogate ε · 1` is the identity
    rw [ppoLoss_policyLoss, hlog, List.map_replicate, hexp, ← advantages_length sqrt cfg b,
      ← List.map_const', List.zipWith_map_right, List.zipWith_self]
    simp only [surrogate_one _ _ hε, List.map_id']

theorem sum_map_sub_div (xs : List α) (m c : α) :
    (xs.map (fun a => (a - m) / c)).sum = (xs.sum - xs.length * m) / c := by
  induction xs with
  | nil => simp
  | cons x xs ih =>
      simp only [List.map_cons, List.sum_cons, ih, List.length_cons, Nat.cast_succ]
      ring

/-- normalised advantages have mean zero -/
theorem normalised_mean_zero (sqrt : α → α) (eps : α) (adv : List α) (hne : adv ≠ []) :
    mean (normalizeAdv sqrt eps adv) = 0 := by
  have hlen : (adv.length : α) ≠ 0 := Nat.cast_ne_zero.mpr (mt List.length_eq_zero_iff.mp hne)
  rw [normalizeAdv, mean_eq, sum_map_sub_div, mean_eq, mul_div_cancel₀ _ hlen, sub_self, zero_div,
    zero_div]

/-- **A2C loss = `−E[log π · A] + c_v · E[(v−R)²]/2 − c_e · E[entropy]`.** -/
theorem a2c_eq_published (sqrt : α → α) (cfg : Cfg α) (b : List (Sample α)) :
    let o := a2cLoss sqrt cfg b
    o.policyLoss = - mean (List.zipWith (fun (s : Sample α) A => s.logpNew * A) b (advantages sqrt cfg b)) ∧
    o.valueLoss = (b.map (fun s => (s.vNew - s.ret) ^ 2)).sum / b.length / 2 ∧
    o.entropyLoss = - ((b.map (·.entropy)).sum / b.length) ∧
    o.loss = o.policyLoss + o.valueLoss * cfg.valueCoef + o.entropyLoss * cfg.entropyCoef := by
  simp only [a2cLoss, sq_eq, mean_eq, List.length_map, Nat.cast_ofNat, and_self]

/-- **REINFORCE loss = `−E[log π · A] + c_v · E[(v−R)²]/2`.** -/
theorem reinforce_eq_published (sqrt : α → α) (cfg : Cfg α) (b : List (Sample α)) :
    let o := reinforceLoss sqrt cfg b
    o.policyLoss = - mean (List.zipWith (fun (s : Sample α) A => s.logpNew * A) b (advantages sqrt cfg b)) ∧
    o.valueLoss = (b.map (fun s => (s.vNew - s.ret) ^ 2)).sum / b.length / 2 ∧
    o.loss = o.policyLoss + o.valueLoss * cfg.valueCoef := by
  simp only [reinforceLoss, sq_eq, mean_eq, List.length_map, Nat.cast_ofNat, and_self]

theorem normSq_nonneg (g : List α) : 0 ≤ normSq g := by
  rw [normSq_eq]
  exact List.sum_nonneg (List.forall_mem_map.mpr fun x _ => mul_self_nonneg x)

/-- **Global-norm clipping**: the clipped gradient has norm at most `max_norm`, is a non-negative
    multiple of the gradient (direction preserved) and equals it when the norm is already
    below the threshold.  (`sqrt` is any function with `sqrt x ≥ 0` and `sqrt x · sqrt x = x`
    on `x ≥ 0`.) -/
theorem clip_global_norm_bound (sqrt : α → α) (hs : ∀ x, 0 ≤ x → 0 ≤ sqrt x ∧ sqrt x * sqrt x = x)
    (maxNorm : α) (hm : 0 ≤ maxNorm) (g : List α) :
    normSq (clipByGlobalNorm sqrt maxNorm g) ≤ maxNorm * maxNorm ∧
    (∃ c : α, 0 ≤ c ∧ clipByGlobalNorm sqrt maxNorm g = g.map (fun x => x * c)) ∧
    (sqrt (normSq g) < maxNorm → clipByGlobalNorm sqrt maxNorm g = g) := by
  obtain ⟨hs0, hs2⟩ := hs (normSq g) (normSq_nonneg g)
  by_cases hlt : sqrt (normSq g) < maxNorm
  · rw [clipByGlobalNorm_of_lt hlt]
    refine ⟨?_, ⟨1, zero_le_one, by simp only [mul_one, List.map_id']⟩, fun _ => rfl⟩
    rw [← hs2]
    exact mul_self_le_mul_self hs0 hlt.le
  · rw [clipByGlobalNorm_of_not_lt hlt, normSq_scale]
    refine ⟨?_, ⟨_, div_nonneg hm hs0, rfl⟩, fun h => absurd h hlt⟩
    -- `‖g·c‖² = (‖g‖·c)²`, and `‖g‖·c` is `max` (or `0` when `‖g‖ = 0`)
    generalize sqrt (normSq g) = n at hs2 ⊢
    rw [← hs2, mul_mul_mul_comm]
    rcases eq_or_ne n 0 with rfl | hz
    · rw [zero_mul, zero_mul]
      exact mul_self_nonneg maxNorm
    · rw [mul_div_cancel₀ _ hz]

example : surrogate (1/5 : ℚ) 2 (3/2) = 2 * (6/5) ∧ surrogate (1/5 : ℚ) (-2) (1/2) = -2 * (4/5) := by
  decide +kernel

example : valueErr true (1/5 : ℚ) 1 0 (-1) = 4 ∧ valueErr false (1/5 : ℚ) 1 0 (-1) = 4 ∧
    valueErr true (1/5 : ℚ) 1 0 2 = (2 - 1/5) ^ 2 := by
  decide +kernel

end Lerax.C08
