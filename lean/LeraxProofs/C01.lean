/-
  C01 — Gym-style step/reset honours episode boundaries (auto-reset contract).

  Theorems about `Env.step` / `Env.reset` of `LeraxModel/Env.lean` for every environment,
  every wrapper stack (`Stack`, any depth), every state, action and key — hence for every
  reachable state.
-/
import LeraxModel.Env

namespace Lerax.C01
open Lerax.Env

set_option linter.unusedSectionVars false

variable {S A O R K : Type} [Keys K]

/-- the state `step` hands back (`lax.cond(terminal | truncate, initial(reset_key), next_state)`) -/
theorem step_state (E : Env S A O R K) (s : S) (a : A) (k : K) :
    (E.step s a k).state = if (E.step s a k).terminal || (E.step s a k).truncate
      then E.initial (sub k 3) else E.transition s a (sub k 0) := rfl

/-- **The step reports the reward and flags of exactly the transition taken** from the given
    state with the given action. -/
theorem step_reports_transition (E : Env S A O R K) (s : S) (a : A) (k : K) :
    let next := E.transition s a (sub k 0)
    (E.step s a k).reward = E.reward s a next (sub k 1) ∧
    (E.step s a k).terminal = E.terminal next (sub k 2) ∧
    (E.step s a k).truncate = E.truncate next :=
  ⟨rfl, rfl, rfl⟩

/-- **Whenever either flag is raised the returned state is a freshly drawn initial state and
    the returned observation is that state's observation.** -/
theorem step_done_resets (E : Env S A O R K) (s : S) (a : A) (k : K)
    (h : (E.step s a k).terminal = true ∨ (E.step s a k).truncate = true) :
    (E.step s a k).state = E.initial (sub k 3) ∧
    (E.step s a k).observation = E.observation (E.initial (sub k 3)) k := by
  have hs := (step_state E s a k).trans (if_pos ((Bool.or_eq_true _ _).mpr h))
  -- the observation is taken of the state handed back
  exact ⟨hs, congrArg (E.observation · k) hs⟩

/-- **Otherwise the returned state is the successor and the observation is the successor's.** -/
theorem step_continue (E : Env S A O R K) (s : S) (a : A) (k : K)
    (h1 : (E.step s a k).terminal = false) (h2 : (E.step s a k).truncate = false) :
    (E.step s a k).state = E.transition s a (sub k 0) ∧
    (E.step s a k).observation = E.observation (E.transition s a (sub k 0)) k := by
  have hs := (step_state E s a k).trans
    (if_neg (ne_true_of_eq_false (Bool.or_eq_false_iff.mpr ⟨h1, h2⟩)))
  exact ⟨hs, congrArg (E.observation · k) hs⟩

/-- **reset returns an initial state together with that state's own observation.** -/
theorem reset_contract (E : Env S A O R K) (k : K) :
    (E.reset k).1 = E.initial (sub k 0) ∧ (E.reset k).2 = E.observation (E.reset k).1 (sub k 1) :=
  ⟨rfl, rfl⟩

/-! ### wrapper stacks: a drawn initial state has every wrapper counter restarted -/

variable {S0 A0 O0 : Type}

/-- For **every** wrapper stack over **every** base environment, an initial state of the wrapped
    environment has all `TimeLimit` counters at zero … -/
theorem fresh_initial {S A O : Type} (st : Stack S0 A0 O0 R S A O) (E : Env S0 A0 O0 R K) (k : K) :
    st.Fresh ((st.denote E).initial k) := by
  induction st with
  | base => trivial
  | timeLimit n st ih => exact ⟨rfl, ih⟩
  | _ => assumption  -- the other layers carry no state of their own

/-- … and unwraps to an initial state of the base environment drawn with the same key. -/
theorem unwrapped_initial {S A O : Type} (st : Stack S0 A0 O0 R S A O) (E : Env S0 A0 O0 R K) (k : K) :
    st.unwrapState ((st.denote E).initial k) = E.initial k := by
  induction st with
  | base => rfl
  | _ => assumption  -- every layer's initial state unwraps to that of the layer below

/-- `Fresh` (the recursive predicate) says that every `TimeLimit` counter of the stack, read off by
    `Stack.counters`, is zero -/
theorem fresh_counters {S A O : Type} (st : Stack S0 A0 O0 R S A O) (s : S) :
    st.Fresh s ↔ ∀ c ∈ st.counters s, c = 0 := by
  induction st with
  | base => exact ⟨fun _ _ h => (nomatch h), fun _ => trivial⟩
  | identity st ih => exact ih s
  | timeLimit n st ih => rw [Stack.Fresh, Stack.counters, List.forall_mem_cons, ih]
  | mapAction f st ih => exact ih s
  | mapObs g st ih => exact ih s
  | mapReward h st ih => exact ih s

/-- **C01 for every wrapper stack**: a step of the wrapped environment that raises a flag
    returns a fresh initial state of the *wrapped* environment (all wrapper counters zero, base
    state a drawn initial state of the base environment) and that state's observation. -/
theorem stack_step_done_resets {S A O : Type} (st : Stack S0 A0 O0 R S A O)
    (E : Env S0 A0 O0 R K) (s : S) (a : A) (k : K)
    (h : ((st.denote E).step s a k).terminal = true ∨ ((st.denote E).step s a k).truncate = true) :
    let out := (st.denote E).step s a k
    st.Fresh out.state ∧ st.unwrapState out.state = E.initial (sub k 3) ∧
    out.observation = (st.denote E).observation out.state k := by
  have h' := step_done_resets (st.denote E) s a k h
  refine ⟨?_, ?_, ?_⟩
  · rw [h'.1]; exact fresh_initial st E _
  · rw [h'.1]; exact unwrapped_initial st E _
  · rw [h'.2, h'.1]

/-- states reachable from a reset by a finite sequence of (action, key) steps -/
inductive Reachable (E : Env S A O R K) : S → Prop where
  | reset (k : K) : Reachable E (E.reset k).1
  | step {s : S} (a : A) (k : K) : Reachable E s → Reachable E (E.step s a k).state

/-- **Along any history, every state the Gym-style API hands back is either an initial state
    or the functional successor of the previous one** — the API never invents a state. -/
theorem reachable_initial_or_successor (E : Env S A O R K) (s : S) (h : Reachable E s) :
    (∃ k, s = E.initial k) ∨ (∃ s' a k, Reachable E s' ∧ s = E.transition s' a k) := by
  cases h with
  | reset k => exact Or.inl ⟨_, rfl⟩
  | @step s' a k hs =>
      rw [step_state]
      split
      · exact Or.inl ⟨_, rfl⟩
      · exact Or.inr ⟨s', a, _, hs, rfl⟩

/-- The step contract holds at every reachable state (it holds at every state). -/
theorem reachable_step_contract (E : Env S A O R K) (s : S) (_h : Reachable E s) (a : A) (k : K) :
    let out := E.step s a k
    let next := E.transition s a (sub k 0)
    out.reward = E.reward s a next (sub k 1) ∧ out.terminal = E.terminal next (sub k 2) ∧
    out.truncate = E.truncate next ∧
    (if out.terminal || out.truncate then out.state = E.initial (sub k 3) else out.state = next) ∧
    out.observation = E.observation out.state k := by
  refine ⟨rfl, rfl, rfl, ?_, rfl⟩
  rw [step_state]
  split
  · rfl
  · rfl

/-- how `stepOK` spells an implication between flags -/
theorem or_eq_true_iff_imp (b c : Bool) : (b || c) = true ↔ (b = false → c = true) := by
  cases b <;> simp

/-- The executable checker `stepOK` accepts exactly the records that satisfy the contract. -/
theorem stepOK_iff [DecidableEq R] (r : StepRecord R) :
    ((stepOK (fun a b => decide (a = b)) r).all (·.2) = true) ↔
      (r.outReward = r.reward ∧ r.outTerminal = r.terminal ∧ r.outTruncate = r.truncate ∧
       ((r.terminal || r.truncate) = true → r.stateIsFreshInitial = true) ∧
       ((r.terminal || r.truncate) = false → r.stateIsSuccessor = true) ∧
       r.obsOfReturnedState = true) := by
  simp only [stepOK, List.all_cons, List.all_nil, Bool.and_true, Bool.and_eq_true,
    decide_eq_true_eq, beq_iff_eq, or_eq_true_iff_imp (!_) _, or_eq_true_iff_imp (_ || _) _,
    Bool.not_eq_false']

/-! ### non-vacuity: a two-state environment under TimeLimit(1) really resets -/

instance : Keys Nat := ⟨fun k i => k + i⟩

def toy : Env Nat Nat Nat Nat Nat where
  initial _ := 0
  transition s _ _ := s + 1
  observation s _ := s
  reward _ _ _ _ := 1
  terminal _ _ := false
  truncate _ := false

example : ((timeLimit 1 toy).step (0, 0) 0 0).truncate = true ∧
    ((timeLimit 1 toy).step (0, 0) 0 0).state = (0, 0) := by decide

end Lerax.C01
