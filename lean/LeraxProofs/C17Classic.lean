/-
  C17 (classic control) — lerax's CartPole, MountainCar, ContinuousMountainCar and Acrobot
  realise the Gymnasium reference MDPs: same vector field, same state limits, same reward on
  every transition (goal / terminal step included), same termination predicate, same
  initial-state range; CartPole under explicit Euler reproduces Gymnasium's update.

  `Lerax.Classic.*` is the model of lerax (`LeraxModel/Classic.lean`), `Lerax.GymRef.*` the
  transcription of Gymnasium 1.3.0 (`LeraxModel/GymRef.lean`).  All theorems are over an
  arbitrary linearly ordered field `α` (hence ℝ), for arbitrary functions `sin cos : α → α`
  (no trigonometric fact is needed for the equalities), all parameter values, all states and
  all actions of the action space.

  Also the two C02 bound theorems (`classic_obs_in_space`, `cartpole_obs_in_space_partial`).
-/
import LeraxModel.Classic
import LeraxModel.GymRef
import LeraxProofs.Clip
import Mathlib.Algebra.Order.Field.Basic
import Mathlib.Tactic.Ring
import Mathlib.Tactic.Linarith
import Mathlib.Tactic.LinearCombination
import Mathlib.Tactic.NormNum
import Mathlib.Algebra.Order.Floor.Ring

namespace Lerax.C17
open Lerax.Classic Lerax.GymRef

set_option linter.unusedSectionVars false

section general
variable {α : Type} [Field α] [LinearOrder α] [IsStrictOrderedRing α]

/-! ### parameter correspondence (lerax constructor arguments ↦ Gymnasium attributes) -/

def cartG (p : CartPoleP α) : CartPoleG α :=
  { gravity := p.gravity, masscart := p.cartMass, masspole := p.poleMass, length := p.length,
    forceMag := p.forceMag, tau := p.dt, thetaThreshold := p.thetaThreshold,
    xThreshold := p.xThreshold }

def mcG (p : MountainCarP α) : MountainCarG α :=
  { minPosition := p.minPosition, maxPosition := p.maxPosition, maxSpeed := p.maxSpeed,
    goalPosition := p.goalPosition, goalVelocity := p.goalVelocity, force := p.force,
    gravity := p.gravity }

def cmcG (p : CmcP α) : CmcG α :=
  { minAction := p.minAction, maxAction := p.maxAction, minPosition := p.minPosition,
    maxPosition := p.maxPosition, maxSpeed := p.maxSpeed, goalPosition := p.goalPosition,
    goalVelocity := p.goalVelocity, power := p.power }

def acroG (p : AcrobotP α) : AcrobotG α :=
  { l1 := p.l1, m1 := p.m1, m2 := p.m2, lc1 := p.lc1, lc2 := p.lc2, moi := p.moi,
    g := p.gravity, maxVel1 := p.maxVel1, maxVel2 := p.maxVel2, availTorque := p.torques,
    dt := p.dt }

theorem clamp_eq_npClip (lo hi x : α) : clamp lo hi x = npClip lo hi x := rfl

theorem clamp_eq_min_max (lo hi x : α) : clamp lo hi x = min (max x lo) hi := by
  rw [clamp, ite_lt_eq_max, ite_lt_eq_min]

theorem clamp_mem (lo hi x : α) (h : lo ≤ hi) : lo ≤ clamp lo hi x ∧ clamp lo hi x ≤ hi :=
  clamp_eq_min_max lo hi x ▸ ⟨le_min_max lo hi x h, min_le_right _ hi⟩

theorem clamp_of_mem (lo hi x : α) (h1 : lo ≤ x) (h2 : x ≤ hi) : clamp lo hi x = x :=
  (clamp_eq_min_max lo hi x).trans (min_max_of_mem lo hi x h1 h2)

theorem clamp_neg_mem (m x : α) (h : 0 ≤ m) : -m ≤ clamp (-m) m x ∧ clamp (-m) m x ≤ m :=
  clamp_mem (-m) m x (neg_le_self h)

theorem lit_two : (lit 2 : α) = 2 := Nat.cast_ofNat

theorem ofBool_true : (ofBool true : α) = 1 := rfl
theorem ofBool_false : (ofBool false : α) = 0 := rfl

theorem mul_ofBool (c : α) (b : Bool) : c * ofBool b = if b then c else 0 := by
  cases b
  · exact mul_zero c
  · exact mul_one c

/-- the one place where the two fields are written differently: lerax's `(2a − 1)·F` against
    Gymnasium's `F if a == 1 else −F`, equal on the action space `{0, 1}` -/
theorem cartpole_force_eq (a : Nat) (ha : a < 2) (F : α) :
    ((a : α) * lit 2 - 1) * F = if a = 1 then F else -F := by
  rw [lit_two]
  obtain rfl | rfl : a = 0 ∨ a = 1 := by omega
  · simp
  · norm_num

/-- **Same vector field**: for every parameter set, state and action `∈ {0, 1}` the lerax
    `dynamics` is `(ẋ, xacc, θ̇, thetaacc)` of Gymnasium's `step`. -/
theorem cartpole_field_eq (sin cos : α → α) (p : CartPoleP α) (y : S4 α) (a : Nat) (ha : a < 2) :
    cartpoleDynamics sin cos p y a = cartpoleField sin cos (cartG p) y a := by
  simp only [cartpoleDynamics, cartpoleField, cartpoleAcc, cartG, CartPoleP.totalMass,
    CartPoleP.polemassLength, CartPoleG.totalMass, CartPoleG.polemassLength,
    cartpole_force_eq a ha]

/-- **Same limits**: neither side restricts the state (`clip` is the identity; Gymnasium's
    `step` stores the raw update). -/
theorem cartpole_limits_eq (sin cos : α → α) (p : CartPoleP α) (y : S4 α) (a : Nat) :
    cartpoleClip y = y ∧
    (cartpoleStep sin cos (cartG p) y a none).state = cartpoleNext sin cos (cartG p) y a :=
  ⟨rfl, rfl⟩

/-- **Same termination predicate.** -/
theorem cartpole_terminal_eq (p : CartPoleP α) (y : S4 α) :
    cartpoleTerminal p y = cartpoleTerminated (cartG p) y := by
  simp only [cartpoleTerminal, cartpoleTerminated, cartG, Bool.not_and, not_decide_le,
    Bool.or_assoc]
  -- `simp` does not rewrite inside the `Decidable` instances, where `cartG p` is still folded
  rfl

/-- **Same reward on every transition of a running episode, the terminating one included**
    (`stepsBeyond = none`: Gymnasium's episode has not terminated before this step). -/
theorem cartpole_reward_eq (sin cos : α → α) (p : CartPoleP α) (y : S4 α) (a : Nat) :
    cartpoleReward y a (cartpoleEulerStep sin cos p y a) =
      (cartpoleStep sin cos (cartG p) y a none).reward := by
  simp only [cartpoleReward, cartpoleStep, cartpoleRewardG]
  cases cartpoleTerminated (cartG p) (cartpoleNext sin cos (cartG p) y a) <;> simp

theorem cartpole_init_range_eq : (cartpoleInitRange : List (α × α)) = cartpoleResetRange := rfl

/-- **CartPole with `diffrax.Euler()` reproduces Gymnasium's update**: one explicit-Euler step
    of the lerax field over `dt = τ`, followed by `clip`, is Gymnasium's `"euler"` update; hence
    (by induction, with the termination and reward theorems) whole trajectories coincide. -/
theorem cartpole_euler_step_eq (sin cos : α → α) (p : CartPoleP α) (y : S4 α) (a : Nat)
    (ha : a < 2) :
    cartpoleEulerStep sin cos p y a = cartpoleNext sin cos (cartG p) y a := by
  have h := cartpole_field_eq sin cos p y a ha
  simp only [cartpoleEulerStep, cartpoleClip, euler4, h]
  rfl

theorem cartpole_euler_trajectory_eq (sin cos : α → α) (p : CartPoleP α) (y : S4 α)
    (as : List Nat) (has : ∀ a ∈ as, a < 2) :
    as.foldl (cartpoleEulerStep sin cos p) y = as.foldl (cartpoleNext sin cos (cartG p)) y :=
  List.foldl_ext _ _ y fun z a ha => cartpole_euler_step_eq sin cos p z a (has a ha)

theorem mountaincar_field_eq (cos : α → α) (p : MountainCarP α) (y : S2 α) (a : Nat) :
    mcDynamics cos p y a = mcField cos (mcG p) y a := by
  simp only [mcDynamics, mcField, mcAcc, mcG, S2.mk.injEq, true_and]
  ring

/-- the left-wall rule in its two spellings -/
theorem wall_rule (v : α) (b : Bool) :
    v * ofBool (b || decide (0 < v)) = (if !b && decide (v < 0) then 0 else v) := by
  cases b
  · -- at the wall both sides are `max v 0`
    simp only [mul_ofBool, Bool.false_or, Bool.not_false, Bool.true_and, decide_eq_true_eq,
      ite_lt_eq_max, max_comm v]
  · exact mul_one v

/-- **Same limits** (speed clip, position clip, left-wall velocity rule), for every raw state. -/
theorem mountaincar_limits_eq (p : MountainCarP α) (y : S2 α) :
    mcClip p y = mcLimits (mcG p) y := by
  simp only [mcClip, mcLimits, mcG, wall_rule]
  -- what is left is `clamp` against `npClip`: the same nested `if` (`clamp_eq_npClip`)
  rfl

/-- Gymnasium's `step` is its limit handling applied to the semi-implicit raw update -/
theorem gym_mountaincar_step_factors (cos : α → α) (p : MountainCarG α) (s : S2 α) (a : Nat) :
    (mcStep cos p s a).state =
      mcLimits p ⟨s.x + npClip (-p.maxSpeed) p.maxSpeed (s.v + mcAcc cos p s a),
                  s.v + mcAcc cos p s a⟩ := rfl

theorem mountaincar_terminal_eq (p : MountainCarP α) (y : S2 α) :
    mcTerminal p y = mcTerminated (mcG p) y := rfl

/-- **Same reward on every transition** (−1, the goal step included). -/
theorem mountaincar_reward_eq (cos : α → α) (p : MountainCarP α) (y y' : S2 α) (a : Nat) :
    mcReward y a y' = (mcStep cos (mcG p) y a).reward := rfl

theorem mountaincar_init_range_eq : (mcInitRange : List (α × α)) = mcResetRange := rfl

theorem cmc_field_eq (cos : α → α) (p : CmcP α) (y : S2 α) (a : α) :
    cmcDynamics cos p y a = cmcField cos (cmcG p) y a := by
  simp only [cmcDynamics, cmcField, cmcAcc, cmcG, clamp_eq_npClip, S2.mk.injEq, true_and]
  ring

/-- Gymnasium's `if` cascade (upper bound first) is `clip` for well-formed bounds -/
theorem cascade_eq_clamp (lo hi x : α) (h : lo ≤ hi) :
    (if (if hi < x then hi else x) < lo then lo else (if hi < x then hi else x)) = clamp lo hi x := by
  rw [clamp_eq_min_max, ite_lt_eq_min, ite_lt_eq_max, max_min_eq_min_max lo hi x h]

/-- Gymnasium's limit cascade in closed form -/
theorem gym_cmcLimits_eq (g : CmcG α) (y : S2 α) (hp : g.minPosition ≤ g.maxPosition)
    (hs : 0 ≤ g.maxSpeed) :
    cmcLimits g y =
      ⟨clamp g.minPosition g.maxPosition y.x,
       clamp (-g.maxSpeed) g.maxSpeed y.v *
         ofBool (neq (clamp g.minPosition g.maxPosition y.x) g.minPosition ||
           decide (0 < clamp (-g.maxSpeed) g.maxSpeed y.v))⟩ := by
  simp only [cmcLimits, wall_rule, cascade_eq_clamp _ _ _ hp, cascade_eq_clamp _ _ _ (neg_le_self hs)]

/-- **Same limits** incl. the left-wall rule, for every raw state
    (`min_position ≤ max_position`, `0 ≤ max_speed`). -/
theorem cmc_limits_eq (p : CmcP α) (y : S2 α) (hp : p.minPosition ≤ p.maxPosition)
    (hs : 0 ≤ p.maxSpeed) :
    cmcClip p y = cmcLimits (cmcG p) y :=
  -- `cmcClip` is that closed form, literally
  (gym_cmcLimits_eq (cmcG p) y hp hs).symm

theorem cmc_terminal_eq (p : CmcP α) (y : S2 α) :
    cmcTerminal p y = cmcTerminated (cmcG p) y := rfl

/-- **Same reward on every transition `(y, a, y')`, the goal step included**: the bonus is
    decided on the state *after* the transition, as in Gymnasium; `a` in the action space. -/
theorem cmc_reward_eq (p : CmcP α) (y y' : S2 α) (a : α)
    (h1 : p.minAction ≤ a) (h2 : a ≤ p.maxAction) :
    cmcReward p y a y' = cmcRewardG (cmcTerminated (cmcG p) y') a := by
  -- three differences: lerax clips the action (identity on the action space), writes the bonus
  -- `100·[t]` for `if t then 100 else 0`, and the cost `0.1·a²` for `a²·0.1`
  rw [cmcReward, cmcRewardG, clamp_of_mem _ _ _ h1 h2, ← cmc_terminal_eq, mul_ofBool, mul_comm (_ / _)]

theorem cmc_init_range_eq : (cmcInitRange : List (α × α)) = cmcResetRange := rfl

theorem cmc_default_goal_eq : (cmcDefaultGoal : α) = cmcGoal := rfl

/-- **Same vector field** ("book" dynamics), every parameter set, state, action. -/
theorem acrobot_field_eq (sin cos : α → α) (pi : α) (p : AcrobotP α) (y : S4 α) (a : Nat) :
    acrobotDynamics sin cos pi p y a = acrobotField sin cos pi (acroG p) y a := by
  -- the two transcriptions differ in the order of `θ̇₁ θ̇₂` inside `phi1` and in nothing else
  simp only [acrobotDynamics, acrobotField, acrobotDsdt, acroG, mul_right_comm _ y.c y.d]

theorem acrobot_terminal_eq (cos : α → α) (y : S4 α) :
    acrobotTerminal cos y = acrobotTerminated cos y := by
  simp only [acrobotTerminal, acrobotTerminated, add_comm y.a y.b]

/-- **Same reward on every transition** (0 on the terminating step, −1 otherwise). -/
theorem acrobot_reward_eq (cos : α → α) (y y' : S4 α) (a : Nat) :
    acrobotReward cos y a y' = acrobotRewardG (acrobotTerminated cos y') := by
  simp only [acrobotReward, acrobotRewardG, acrobot_terminal_eq]
  cases acrobotTerminated cos y' <;> simp [ofBool]

theorem acrobot_init_range_eq : (acrobotInitRange : List (α × α)) = acrobotResetRange := rfl

theorem acrobot_obs_eq (sin cos : α → α) (y : S4 α) :
    Classic.acrobotObs sin cos y = GymRef.acrobotObs sin cos y := rfl

/-- `while x > M: x -= diff` moves `x` by an integer multiple of `diff` -/
theorem wrapDown_spec (n : Nat) (M diff x : α) :
    ∃ k : ℤ, wrapDown n M diff x = x + k * diff := by
  induction n generalizing x with
  | zero => exact ⟨0, by simp [wrapDown]⟩
  | succ n ih =>
      unfold wrapDown
      split_ifs
      · obtain ⟨k, hk⟩ := ih (x - diff)
        exact ⟨k - 1, by rw [hk]; push_cast; ring⟩
      · exact ⟨0, by simp⟩

theorem wrapUp_spec (n : Nat) (m diff x : α) :
    ∃ k : ℤ, wrapUp n m diff x = x + k * diff := by
  induction n generalizing x with
  | zero => exact ⟨0, by simp [wrapUp]⟩
  | succ n ih =>
      unfold wrapUp
      split_ifs
      · obtain ⟨k, hk⟩ := ih (x + diff)
        exact ⟨k + 1, by rw [hk]; push_cast; ring⟩
      · exact ⟨0, by simp⟩

/-- Gymnasium's `wrap` moves `x` by an integer multiple of the period -/
theorem wrap_spec (fuel : Nat) (m M x : α) : ∃ j : ℤ, GymRef.wrap fuel m M x = x + j * (M - m) := by
  obtain ⟨k1, h1⟩ := wrapDown_spec fuel M (M - m) x
  obtain ⟨k2, h2⟩ := wrapUp_spec fuel m (M - m) (wrapDown fuel M (M - m) x)
  exact ⟨k1 + k2, by rw [GymRef.wrap, h2, h1, Int.cast_add, add_mul, add_assoc]⟩

/-- contract of `jnp`'s float `%` for a positive modulus: result in `[0, m)`, congruent -/
def PmodSpec (pmod : α → α → α) : Prop :=
  ∀ a m : α, 0 < m → 0 ≤ pmod a m ∧ pmod a m < m ∧ ∃ k : ℤ, a = pmod a m + k * m

/-- the contract is satisfiable: floor-based remainder `a - m * ⌊a / m⌋` (what `jnp`'s float `%`
    computes up to rounding) satisfies it in every floor ring, e.g. ℝ and ℚ (the same function is
    `C17.realPmod` over ℝ and `C20.floorFmod`, witness of C20's `FmodSpec`) -/
theorem pmodFloor_spec [FloorRing α] : PmodSpec (fun a m : α => a - m * ((⌊a / m⌋ : ℤ) : α)) := by
  intro a m hm
  beta_reduce
  rw [mul_comm]
  exact ⟨Int.sub_floor_div_mul_nonneg a hm, Int.sub_floor_div_mul_lt a hm, ⌊a / m⌋,
    (sub_add_cancel a _).symm⟩

/-- two representatives of the same class modulo `hi - lo`, one in `[lo, hi)`, one in `[lo, hi]`:
    equal, or the two ends -/
theorem eq_or_ends_of_sub_eq_int_mul {lo hi g w : α} (n : ℤ) (h : g - w = n * (hi - lo))
    (hw : lo ≤ w) (hw' : w < hi) (hg : lo ≤ g) (hg' : g ≤ hi) : g = w ∨ (g = hi ∧ w = lo) := by
  have hP : 0 < hi - lo := sub_pos.2 (hw.trans_lt hw')
  -- `-(hi - lo) < g - w < 2 (hi - lo)`; cancel the period
  have h1 : ((-1 : ℤ) : α) * (hi - lo) < n * (hi - lo) := by push_cast; linarith
  have h2 : (n : α) * (hi - lo) < (2 : ℤ) * (hi - lo) := by push_cast; linarith
  obtain rfl | rfl : n = 0 ∨ n = 1 := by
    have := Int.cast_lt.1 (lt_of_mul_lt_mul_right h1 hP.le)
    have := Int.cast_lt.1 (lt_of_mul_lt_mul_right h2 hP.le)
    omega
  · exact .inl (sub_eq_zero.1 (by rwa [Int.cast_zero, zero_mul] at h))
  · rw [Int.cast_one, one_mul] at h
    exact .inr ⟨by linarith, by linarith⟩

/-- lerax's `(x + π) % 2π − π` lies in `[−π, π)` and moves `x` by an integer multiple of the period
    (`C20.advance1_spec` is the same fact about the gait phase, for C20's contract `FmodSpec`) -/
theorem wrapPi_spec (pmod : α → α → α) (hpm : PmodSpec pmod) (pi : α) (hpi : 0 < pi) (x : α) :
    -pi ≤ wrapPi pmod pi x ∧ wrapPi pmod pi x < pi ∧
      ∃ k : ℤ, x = wrapPi pmod pi x + k * (pi - -pi) := by
  have e2 : (lit 2 : α) * pi = pi - -pi := by rw [lit_two]; ring
  obtain ⟨h0, h1, k, hk⟩ := hpm (x + pi) (pi - -pi) (e2 ▸ mul_pos two_pos hpi)
  rw [wrapPi, e2]
  exact ⟨by linarith, by linarith, k, by rw [sub_add_eq_add_sub, ← hk, add_sub_cancel_right]⟩

/-- **Angle wrapping agrees**: lerax's `(x + π) % 2π − π ∈ [−π, π)` and Gymnasium's
    `wrap(x, −π, π) ∈ [−π, π]` (loops run to completion) are equal, except that the single
    angle `π` is represented as `π` by Gymnasium and as `−π` by lerax (same point of the circle). -/
theorem acrobot_wrap_eq (pmod : α → α → α) (hpm : PmodSpec pmod) (pi : α) (hpi : 0 < pi)
    (fuel : Nat) (x : α)
    (hlo : -pi ≤ GymRef.wrap fuel (-pi) pi x) (hhi : GymRef.wrap fuel (-pi) pi x ≤ pi) :
    GymRef.wrap fuel (-pi) pi x = wrapPi pmod pi x ∨
    (GymRef.wrap fuel (-pi) pi x = pi ∧ wrapPi pmod pi x = -pi) := by
  obtain ⟨j, hj⟩ := wrap_spec fuel (-pi) pi x
  obtain ⟨hw, hw', k, hk⟩ := wrapPi_spec pmod hpm pi hpi x
  refine eq_or_ends_of_sub_eq_int_mul (j + k) ?_ hw hw' hlo hhi
  -- `wrap = x + j P` and `x = wrapPi + k P`, hence `wrap - wrapPi = (j + k) P`
  rw [hj]
  push_cast
  linear_combination hk

/-- **Same limits**: velocity bounds identical; angles identical whenever Gymnasium's result is
    not exactly `π` (where the two differ by one full turn, see `acrobot_wrap_eq`). -/
theorem acrobot_limits_eq (pmod : α → α → α) (hpm : PmodSpec pmod) (pi : α) (hpi : 0 < pi)
    (fuel : Nat) (p : AcrobotP α) (y : S4 α)
    (ha : -pi ≤ GymRef.wrap fuel (-pi) pi y.a ∧ GymRef.wrap fuel (-pi) pi y.a < pi)
    (hb : -pi ≤ GymRef.wrap fuel (-pi) pi y.b ∧ GymRef.wrap fuel (-pi) pi y.b < pi) :
    acrobotClip pmod pi p y = acrobotLimits fuel pi (acroG p) y := by
  have e (x : α) (h : -pi ≤ GymRef.wrap fuel (-pi) pi x ∧ GymRef.wrap fuel (-pi) pi x < pi) :
      GymRef.wrap fuel (-pi) pi x = wrapPi pmod pi x :=
    (acrobot_wrap_eq pmod hpm pi hpi fuel x h.1 h.2.le).resolve_right fun h' => h.2.ne h'.1
  simp only [acrobotClip, acrobotLimits, acroG, bound, clamp_eq_npClip, e y.a ha, e y.b hb]

/-- hence `acrobot_wrap_eq` / `acrobot_limits_eq` are not vacuous -/
theorem acrobot_limits_eq_floor [FloorRing α] (pi : α) (hpi : 0 < pi) (fuel : Nat) (p : AcrobotP α)
    (y : S4 α)
    (ha : -pi ≤ GymRef.wrap fuel (-pi) pi y.a ∧ GymRef.wrap fuel (-pi) pi y.a < pi)
    (hb : -pi ≤ GymRef.wrap fuel (-pi) pi y.b ∧ GymRef.wrap fuel (-pi) pi y.b < pi) :
    acrobotClip (fun a m : α => a - m * ((⌊a / m⌋ : ℤ) : α)) pi p y =
      acrobotLimits fuel pi (acroG p) y :=
  acrobot_limits_eq _ pmodFloor_spec pi hpi fuel p y ha hb

/-! ### C02: observations of clipped states lie in the declared observation space -/

theorem inBox_nil : inBox ([] : List α) [] [] = true := rfl

theorem inBox_cons (l h x : α) (ls hs xs : List α) :
    inBox (l :: ls) (h :: hs) (x :: xs) = true ↔ (l ≤ x ∧ x ≤ h) ∧ inBox ls hs xs = true := by
  simp [inBox, and_assoc, and_left_comm]

/-- membership of a list in a box, Prop form of `Classic.inBox` for lists of equal length -/
theorem inBox_iff3 (l1 l2 l3 h1 h2 h3 x1 x2 x3 : α) :
    inBox [l1, l2, l3] [h1, h2, h3] [x1, x2, x3] = true ↔
      (l1 ≤ x1 ∧ x1 ≤ h1) ∧ (l2 ≤ x2 ∧ x2 ≤ h2) ∧ (l3 ≤ x3 ∧ x3 ≤ h3) := by
  simp only [inBox_cons, inBox_nil, and_true]

/-- what `MountainCar.clip` and `ContinuousMountainCar.clip` return lies in the declared box -/
theorem wallClip_inBox (lo hi ms x v : α) (b : Bool) (hp : lo ≤ hi) (hs : 0 ≤ ms) :
    inBox [lo, -ms] [hi, ms] [clamp lo hi x, clamp (-ms) ms v * ofBool b] = true := by
  simp only [inBox_cons, inBox_nil, and_true]
  refine ⟨clamp_mem lo hi x hp, ?_⟩
  cases b
  · rw [ofBool_false, mul_zero]
    exact ⟨neg_nonpos.2 hs, hs⟩
  · rw [ofBool_true, mul_one]
    exact clamp_neg_mem ms v hs

/-- **C02 bound theorem**: for MountainCar, ContinuousMountainCar, Pendulum and Acrobot and ANY
    solver output `y` (arbitrary numbers — the ODE solver is an oracle), the observation of the
    clipped state lies inside the declared observation-space bounds.  Uses only
    `-1 ≤ sin, cos ≤ 1`, well-formed bounds, and the clip lemma. -/
theorem classic_obs_in_space (sin cos : α → α) (pmod : α → α → α) (pi : α)
    (hsin : ∀ x, -1 ≤ sin x ∧ sin x ≤ 1) (hcos : ∀ x, -1 ≤ cos x ∧ cos x ≤ 1) :
    (∀ (p : MountainCarP α) (y : S2 α), p.minPosition ≤ p.maxPosition → 0 ≤ p.maxSpeed →
      inBox (mcObsLow p) (mcObsHigh p) (mcObs (mcClip p y)) = true) ∧
    (∀ (p : CmcP α) (y : S2 α), p.minPosition ≤ p.maxPosition → 0 ≤ p.maxSpeed →
      inBox (cmcObsLow p) (cmcObsHigh p) (cmcObs (cmcClip p y)) = true) ∧
    (∀ (p : PendulumP α) (y : S2 α), 0 ≤ p.maxSpeed →
      inBox ((pendulumObsHigh p).map Neg.neg) (pendulumObsHigh p)
        (pendulumObs sin cos (pendulumClip pmod pi p y)) = true) ∧
    (∀ (p : AcrobotP α) (y : S4 α), 0 ≤ p.maxVel1 → 0 ≤ p.maxVel2 →
      inBox ((acrobotObsHigh p).map Neg.neg) (acrobotObsHigh p)
        (Classic.acrobotObs sin cos (acrobotClip pmod pi p y)) = true) := by
  refine ⟨fun p y hp hs => wallClip_inBox _ _ _ _ _ _ hp hs,
    fun p y hp hs => wallClip_inBox _ _ _ _ _ _ hp hs, fun p y hs => ?_, fun p y h1 h2 => ?_⟩
  · exact (inBox_iff3 ..).2 ⟨hcos _, hsin _, clamp_neg_mem _ _ hs⟩
  · simp only [acrobotObsHigh, Classic.acrobotObs, acrobotClip, List.map, inBox_cons, inBox_nil,
      and_true]
    exact ⟨hcos _, hsin _, hcos _, hsin _, clamp_neg_mem _ _ h1, clamp_neg_mem _ _ h2⟩

/-- **C02, CartPole (partial)**: every *non-terminal* state is inside the declared observation
    space (`|x| ≤ x_thr ≤ 2·x_thr`, `|θ| ≤ θ_thr ≤ 2·θ_thr`, velocities unbounded).  Missing: the
    one post-terminal state `step` may expose is not bounded by the code (nor by Gymnasium) —
    left to the differential check of C02. -/
theorem cartpole_obs_in_space_partial (p : CartPoleP α) (y : S4 α)
    (hx : 0 ≤ p.xThreshold) (ht : 0 ≤ p.thetaThreshold) (hnt : cartpoleTerminal p y = false) :
    (-(p.xThreshold * lit 2) ≤ y.a ∧ y.a ≤ p.xThreshold * lit 2) ∧
    (-(p.thetaThreshold * lit 2) ≤ y.c ∧ y.c ≤ p.thetaThreshold * lit 2) := by
  simp only [cartpoleTerminal, Bool.not_eq_false', Bool.and_eq_true, decide_eq_true_eq] at hnt
  obtain ⟨⟨h1, h2⟩, h3, h4⟩ := hnt
  have h2le (t : α) (h : 0 ≤ t) : t ≤ t * lit 2 :=
    le_mul_of_one_le_right h (by rw [lit_two]; exact one_le_two)
  exact ⟨⟨(neg_le_neg (h2le _ hx)).trans h1, h2.trans (h2le _ hx)⟩,
    (neg_le_neg (h2le _ ht)).trans h3, h4.trans (h2le _ ht)⟩

/-! ### Φ as decided by the driver (`Classic.phiSame`) holds of the two models -/

theorem sameList_refl {β : Type} (eqv : β → β → Bool) (h : ∀ x, eqv x x = true) (xs : List β) :
    sameList eqv xs xs = true := by
  induction xs with
  | nil => rfl
  | cons x xs ih => simp [sameList, h, ih]

/-- if every clause compares two equal answers, `phiSame` reports no failing clause -/
theorem phiSame_none {β : Type} (eqv : β → β → Bool) (h : ∀ x, eqv x x = true)
    (clauses : List (String × List β × List β)) (heq : ∀ c ∈ clauses, c.2.1 = c.2.2) :
    phiSame eqv clauses = none := by
  unfold phiSame
  rw [Option.map_eq_none_iff, List.find?_eq_none]
  intro c hc
  simp [heq c hc, sameList_refl eqv h]

/-- **Φ for ContinuousMountainCar**: the clauses the harness submits (field, limits, reward,
    termination), computed by the lerax model and by the Gymnasium model, always pass. -/
theorem phi_cmc (cos : α → α) (p : CmcP α) (y raw y' : S2 α) (a : α)
    (hp : p.minPosition ≤ p.maxPosition) (hs : 0 ≤ p.maxSpeed)
    (h1 : p.minAction ≤ a) (h2 : a ≤ p.maxAction) :
    phiSame (fun u v : α => decide (u = v))
      [("field", (cmcDynamics cos p y a).toList, (cmcField cos (cmcG p) y a).toList),
       ("limits", (cmcClip p raw).toList, (cmcLimits (cmcG p) raw).toList),
       ("reward", [cmcReward p y a y'], [cmcRewardG (cmcTerminated (cmcG p) y') a]),
       ("terminated", [ofBool (cmcTerminal p y')], [ofBool (cmcTerminated (cmcG p) y')])] = none := by
  refine phiSame_none _ (by simp) _ ?_
  simp only [List.forall_mem_cons, cmc_field_eq, cmc_limits_eq p raw hp hs,
    cmc_reward_eq p y y' a h1 h2, cmc_terminal_eq, true_and]
  exact List.forall_mem_nil _

/-- **Φ for MountainCar** -/
theorem phi_mountaincar (cos : α → α) (p : MountainCarP α) (y raw y' : S2 α) (a : Nat) :
    phiSame (fun u v : α => decide (u = v))
      [("field", (mcDynamics cos p y a).toList, (mcField cos (mcG p) y a).toList),
       ("limits", (mcClip p raw).toList, (mcLimits (mcG p) raw).toList),
       ("reward", [mcReward y a y'], [(mcStep cos (mcG p) y a).reward]),
       ("terminated", [ofBool (mcTerminal p y')], [ofBool (mcTerminated (mcG p) y')])] = none := by
  refine phiSame_none _ (by simp) _ ?_
  simp only [List.forall_mem_cons, mountaincar_field_eq, mountaincar_limits_eq,
    mountaincar_terminal_eq, mountaincar_reward_eq cos p y y' a, true_and]
  exact List.forall_mem_nil _

end general

/-! ### pre-repair behaviour differs from Gymnasium (kernel-checked witnesses over ℚ) -/

def cmcWitness : CmcP ℚ :=
  { minAction := -1, maxAction := 1, minPosition := -12 / 10, maxPosition := 6 / 10,
    maxSpeed := 7 / 100, goalPosition := 45 / 100, goalVelocity := 0, power := 15 / 10000,
    dt := 1 }

/-- goal step `y = (0.44, 0.05) → y' = (0.49, 0.05)`, `a = 1/2`: Gymnasium pays
    `100 − 0.025`, the pre-repair lerax reward `−0.025`. -/
theorem legacy_cmc_reward_differs :
    LegacyCmcReward cmcWitness ⟨44 / 100, 5 / 100⟩ (1 / 2) ⟨49 / 100, 5 / 100⟩ ≠
      cmcRewardG (cmcTerminated (cmcG cmcWitness) ⟨49 / 100, 5 / 100⟩) (1 / 2) := by
  decide +kernel

/-- the repaired reward on the same transition equals Gymnasium's (non-vacuity of `cmc_reward_eq`
    on a goal step) -/
example :
    cmcReward cmcWitness ⟨44 / 100, 5 / 100⟩ (1 / 2) ⟨49 / 100, 5 / 100⟩ = 100 - 1 / 40 := by
  decide +kernel

/-- raw state beyond the left wall with negative speed: Gymnasium stops the car, the pre-repair
    `clip` kept the speed. -/
theorem legacy_cmc_clip_differs :
    LegacyCmcClip cmcWitness ⟨-13 / 10, -5 / 100⟩ ≠ cmcLimits (cmcG cmcWitness) ⟨-13 / 10, -5 / 100⟩ := by
  decide +kernel

example : cmcClip cmcWitness ⟨-13 / 10, -5 / 100⟩ = ⟨-12 / 10, 0⟩ := by
  decide +kernel

theorem legacy_cmc_goal_differs : (LegacyCmcDefaultGoal : ℚ) ≠ cmcGoal := by
  decide +kernel

/-- MountainCar beyond the left wall with negative speed: `clip` stops the car. -/
example :
    mcClip ({ minPosition := -12 / 10, maxPosition := 6 / 10, maxSpeed := 7 / 100,
              goalPosition := 1 / 2, goalVelocity := 0, force := 1 / 1000,
              gravity := 25 / 10000, dt := 1 } : MountainCarP ℚ) ⟨-2, -1⟩ = ⟨-12 / 10, 0⟩ := by
  decide +kernel

/-- the CartPole field is not trivially zero: with `sin = cos = fun _ => 1/2` the pole
    acceleration at rest, action 1, is non-zero. -/
example :
    (cartpoleDynamics (fun _ => (1 / 2 : ℚ)) (fun _ => 1 / 2)
      { gravity := 98 / 10, cartMass := 1, poleMass := 1 / 10, length := 1 / 2, forceMag := 10,
        thetaThreshold := 1 / 5, xThreshold := 24 / 10, dt := 1 / 50 } ⟨0, 0, 0, 0⟩ 1).d ≠ 0 := by
  decide +kernel

/-- Gymnasium's `wrap` evaluated over ℚ with π̂ = 3: one turn down, `4 ↦ −2`. -/
example : GymRef.wrap 8 (-3 : ℚ) 3 4 = -2 := by
  decide +kernel

end Lerax.C17
