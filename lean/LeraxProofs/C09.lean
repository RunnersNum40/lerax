/-
  C09 — Each epoch partitions the rollout into disjoint, intact minibatches.

  Theorems about `LeraxModel/Batching.lean` for every number of samples `N`, every batch size
  `B > 0`, every permutation of `range N` (the oracle standing for `jr.permutation`), every
  number of environments / steps and every number of epochs.
-/
import LeraxModel.Batching
import LeraxProofs.ListFacts
import Mathlib.Data.List.Perm.Basic
import Mathlib.Data.List.Nodup
import Mathlib.Data.List.Count

namespace Lerax.C09
open Lerax.Batching

/-- `batch_indices` is `perm.length / B` consecutive rows of width `B` -/
theorem batchIndices_eq (perm : List Nat) (B : Nat) :
    batchIndices perm B
      = (List.range (perm.length / B)).map (fun i => (perm.drop (i * B)).take B) := by
  rw [batchIndices, ← Nat.div_eq_sub_mod_div]

set_option linter.unusedVariables false in -- `hB` is not needed: for `B = 0` both sides are `[]`
theorem batchIndices_flatten (perm : List Nat) (B : Nat) (hB : 0 < B) :
    (batchIndices perm B).flatten = perm.take ((perm.length / B) * B) := by
  rw [batchIndices_eq perm B]
  -- `k` consecutive windows of width `B` concatenate to the first `k * B` entries
  generalize perm.length / B = k
  induction k with
  | zero => rw [Nat.zero_mul, List.take_zero, List.range_zero, List.map_nil, List.flatten_nil]
  | succ k ih =>
      rw [List.range_succ, List.map_append, List.flatten_append, ih, List.map_singleton,
        List.flatten_singleton, Nat.succ_mul, List.take_add]

/-- **Minibatch partition.**  For every `N`, every `B > 0` and every permutation `perm` of
    `range N`: there are `N / B` index rows, each of length `B`; together they contain no index
    twice, only indices `< N`, exactly `(N / B) · B` of them; fewer than `B` samples are dropped. -/
theorem batch_partition (N B : Nat) (hB : 0 < B) (perm : List Nat) (hperm : perm.Perm (List.range N)) :
    (batchIndices perm B).length = N / B ∧
    (∀ r ∈ batchIndices perm B, r.length = B) ∧
    (batchIndices perm B).flatten.Nodup ∧
    (∀ i ∈ (batchIndices perm B).flatten, i < N) ∧
    (batchIndices perm B).flatten.length = (N / B) * B ∧
    N - (N / B) * B < B := by
  have hlen : perm.length = N := hperm.length_eq.trans List.length_range
  have hflat := batchIndices_flatten perm B hB
  have hcount : (batchIndices perm B).length = N / B := by
    rw [batchIndices_eq perm B, List.length_map, List.length_range, hlen]
  have hrows : ∀ r ∈ batchIndices perm B, r.length = B := by
    rw [batchIndices_eq perm B, hlen, List.forall_mem_map]
    intro i hi
    -- row `i < N / B` ends at `(i + 1) * B ≤ (N / B) * B ≤ N`
    have hend := Nat.le_trans (Nat.mul_le_mul_right B (List.mem_range.mp hi)) (Nat.div_mul_le_self N B)
    rw [Nat.succ_mul] at hend
    rw [List.length_take, List.length_drop, hlen]
    exact Nat.min_eq_left (Nat.le_sub_of_add_le' hend)
  refine ⟨hcount, hrows, ?_, ?_, ?_, ?_⟩
  · rw [hflat]
    exact (hperm.nodup_iff.mpr List.nodup_range).sublist (List.take_sublist _ _)
  · intro i hi
    rw [hflat] at hi
    exact List.mem_range.mp (hperm.subset (List.mem_of_mem_take hi))
  · rw [ListFacts.length_flatten_uniform B _ hrows, hcount]
  · rw [← Nat.mod_eq_sub_div_mul]
    exact Nat.mod_lt N hB

/-- within one epoch every collected sample is used in at most one minibatch -/
theorem epoch_visits_each_at_most_once (N B : Nat) (hB : 0 < B) (perm : List Nat)
    (hperm : perm.Perm (List.range N)) (i : Nat) :
    (batchIndices perm B).flatten.count i ≤ 1 :=
  List.nodup_iff_count_le_one.mp (batch_partition N B hB perm hperm).2.2.1 i

theorem mem_epoch {ρ : Type} {buffer : List (List ρ)} {perm : List Nat} {B : Nat}
    {mb : List (Option ρ)} :
    mb ∈ epoch buffer perm B ↔ ∃ r ∈ batchIndices perm B, gather (flatten2 buffer) r = mb :=
  List.mem_map

theorem gather_length {ρ : Type} (rows : List ρ) (idx : List Nat) :
    (gather rows idx).length = idx.length :=
  List.length_map _

/-- **Each minibatch row is one collected sample with all of its fields**: gathering with
    in-range indices returns exactly the rows stored at those indices. -/
theorem gather_rows_intact {ρ : Type} (rows : List ρ) (idx : List Nat) (h : ∀ i ∈ idx, i < rows.length) :
    ∀ x ∈ gather rows idx, ∃ r ∈ rows, x = some r :=
  List.forall_mem_map.mpr fun i hi =>
    ⟨rows[i]'(h i hi), List.getElem_mem _, List.getElem?_eq_getElem (h i hi)⟩

/-- **Flattening is a bijection**: for `E` environments of `T` steps each, the flat buffer has
    `E · T` rows and row `e · T + t` is sample `(e, t)`. -/
theorem flatten_bijective {ρ : Type} (T : Nat) (xs : List (List ρ)) (hT : ∀ row ∈ xs, row.length = T) :
    (flatten2 xs).length = xs.length * T ∧
    ∀ e t, t < T → (flatten2 xs)[e * T + t]? = (xs[e]?).bind (fun row => row[t]?) :=
  ⟨ListFacts.length_flatten_uniform T xs hT, ListFacts.getElem?_flatten_uniform T xs hT⟩

/-- **Over `num_epochs` epochs every sample is visited at most `num_epochs` times and exactly
    `num_epochs · (N / B) · B` visits happen** (each epoch visits the data once). -/
theorem train_visit_counts (N B : Nat) (hB : 0 < B) (perms : List (List Nat))
    (hperms : ∀ p ∈ perms, p.Perm (List.range N)) :
    (∀ i, (trainVisits perms B).count i ≤ perms.length) ∧
    (trainVisits perms B).length = perms.length * ((N / B) * B) := by
  unfold trainVisits
  constructor
  · intro i
    have h := ListFacts.count_flatten_le i 1 (List.forall_mem_map.mpr fun p hp =>
      epoch_visits_each_at_most_once N B hB p (hperms p hp) i)
    rwa [List.length_map, Nat.mul_one] at h
  · rw [ListFacts.length_flatten_uniform ((N / B) * B) _ (List.forall_mem_map.mpr fun p hp =>
      (batch_partition N B hB p (hperms p hp)).2.2.2.2.1), List.length_map]

/-- the rejection test of `resolve_axes` fails exactly on distinct in-range axes -/
theorem axes_test_false_iff (ndim : Nat) (norm : List Int) :
    (norm.eraseDups.length != norm.length || norm.any (fun a => a < 0 || a ≥ (ndim : Int))) = false
      ↔ (norm.eraseDups.length = norm.length ∧ ∀ a ∈ norm, 0 ≤ a ∧ a < ndim) := by
  -- the Boolean test read as a proposition, connective by connective
  simp only [Bool.or_eq_false_iff, bne_eq_false_iff_eq, List.any_eq_false, Bool.or_eq_true,
    decide_eq_true_eq, not_or, Int.not_lt, ge_iff_le, Int.not_le]

/-- `resolve_axes` accepts exactly the axis lists whose normalised entries are distinct and in
    range, and returns the normalised axes. -/
theorem resolve_axes_spec (ndim : Nat) (l : List Int) :
    let norm : List Int := l.map (fun a => if a < 0 then a + (ndim : Int) else a)
    (resolveAxes ndim (some l) = some (norm.map Int.toNat) ↔
      (norm.eraseDups.length = norm.length ∧ ∀ a ∈ norm, 0 ≤ a ∧ a < ndim)) ∧
    (resolveAxes ndim (some l) = none ∨ resolveAxes ndim (some l) = some (norm.map Int.toNat)) := by
  simp only [resolveAxes]
  split_ifs with hc
  · rw [← axes_test_false_iff, hc]
    exact ⟨⟨nofun, nofun⟩, Or.inl rfl⟩
  · rw [← axes_test_false_iff, (Bool.not_eq_true _).mp hc]
    exact ⟨⟨fun _ => rfl, fun _ => rfl⟩, Or.inr rfl⟩

theorem phiPartition_sound (N B : Nat) (rows : List (List Nat)) (h : phiPartition N B rows = true) :
    rows.length = N / B ∧ (∀ r ∈ rows, r.length = B) ∧ (∀ i ∈ rows.flatten, i < N) ∧
    rows.flatten.length = (N / B) * B ∧ N - (N / B) * B < B := by
  simp only [phiPartition, Bool.and_eq_true, beq_iff_eq, List.all_eq_true, decide_eq_true_eq] at h
  obtain ⟨⟨⟨⟨⟨h1, h2⟩, h3⟩, _⟩, h5⟩, h6⟩ := h
  exact ⟨h1, h2, h3, h5, h6⟩

example : batchIndices [3, 0, 4, 1, 2] 2 = [[3, 0], [4, 1]] := by decide
example : phiPartition 5 2 (batchIndices [3, 0, 4, 1, 2] 2) = true := by decide

end Lerax.C09
