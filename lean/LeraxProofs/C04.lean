/-
  C04 — An on-policy rollout is a faithful record of the interaction.

  Theorems about `collectStep` / `collectRollout` / `collectN` of `LeraxModel/OnPolicy.lean`, for
  every environment, every (coherent) policy, every state, key, rollout length and number of
  parallel environments; then `filterCond` of `LeraxModel/Utils.lean`, through which `step` does
  its two resets.
-/
import LeraxModel.OnPolicy
import LeraxModel.Utils

namespace Lerax.C04
open Lerax.Env Lerax.OnPolicy

section
variable {S A O K PS M α : Type} [Keys K] [Add α] [Mul α]

/-- A policy is coherent when re-evaluating the action it returned, for the same policy state,
    observation and mask, reproduces the value and log-probability it reported. -/
def Coherent (P : Policy PS O A M α K) : Prop :=
  ∀ ps o k m, P.evaluate ps o (P.actionAndValue ps o k m).2.1 m =
    ((P.actionAndValue ps o k m).2.2.1, (P.actionAndValue ps o k m).2.2.2)

variable (E : Env S A O α K) (actionMask : S → K → Option M) (clip : A → A)
  (P : Policy PS O A M α K) (gamma : α)

/-- What it means for `row` to be a faithful record of the step taken from `st` under `key`,
    leading to `st'`. -/
structure RowOK (st : StepState S PS) (key : K) (st' : StepState S PS) (row : Row PS O A M α) : Prop where
  /-- the observation the policy saw, and the mask the environment offered, recorded and applied -/
  obs : row.observation = E.observation st.env (sub key 2)
  mask : row.mask = actionMask st.env (sub key 2)
  pstate : row.policyState = st.policy
  /-- the stored action, value and log-prob are the policy's own answer for that observation -/
  acted : (row.action, row.value, row.logProb) =
      (P.actionAndValue st.policy row.observation (sub key 0) row.mask).2
  /-- done = terminal or truncated of the successor reached with the *clipped* action -/
  done : row.done = (E.terminal (E.transition st.env (clip row.action) (sub key 1)) (sub key 4) ||
      E.truncate (E.transition st.env (clip row.action) (sub key 1)))
  /-- reward computed with the clipped action; γ·V(successor observation) added iff the step was
      ended only by truncation; a termination never bootstraps -/
  reward :
    let next := E.transition st.env (clip row.action) (sub key 1)
    let r := E.reward st.env (clip row.action) next (sub key 3)
    let ps' := (P.actionAndValue st.policy row.observation (sub key 0) row.mask).1
    row.reward = if E.truncate next && !E.terminal next (sub key 4)
      then r + gamma * P.value ps' (E.observation next (sub key 5)) else r
  /-- after a done step both the environment and the policy restart from fresh initial states;
      otherwise they continue with the successor / the policy's next state -/
  next_env : st'.env = if row.done then E.initial (sub key 6)
      else E.transition st.env (clip row.action) (sub key 1)
  next_policy : st'.policy = if row.done then P.reset (sub key 7)
      else (P.actionAndValue st.policy row.observation (sub key 0) row.mask).1

/-- **Every step produces a faithful row.** -/
theorem row_faithful (st : StepState S PS) (key : K) :
    RowOK E actionMask clip P gamma st key
      (collectStep E actionMask clip P gamma st key).1
      (collectStep E actionMask clip P gamma st key).2 :=
  ⟨rfl, rfl, rfl, rfl, rfl, rfl, rfl, rfl⟩

/-- **Re-evaluating the stored sample under the unchanged policy reproduces the stored value
    and log-probability** — hence the first PPO probability ratio is exactly 1. -/
theorem ratio_one (hP : Coherent P) (st : StepState S PS) (key : K) :
    let row := (collectStep E actionMask clip P gamma st key).2
    P.evaluate row.policyState row.observation row.action row.mask = (row.value, row.logProb) :=
  hP _ _ _ _

/-- **A true termination never bootstraps**; a step ended only by truncation has
    `γ·V(successor observation)` added. -/
theorem reward_bootstrap (st : StepState S PS) (key : K) :
    let row := (collectStep E actionMask clip P gamma st key).2
    let next := E.transition st.env (clip row.action) (sub key 1)
    let r := E.reward st.env (clip row.action) next (sub key 3)
    (E.terminal next (sub key 4) = true → row.reward = r) ∧
    (E.truncate next = false → row.reward = r) ∧
    (E.truncate next = true → E.terminal next (sub key 4) = false →
      row.reward = r + gamma * P.value (P.actionAndValue st.policy row.observation (sub key 0) row.mask).1
        (E.observation next (sub key 5))) := by
  -- `RowOK.reward`: the stored reward is `if truncate && !terminal then r + γ·V else r`; each hypothesis decides it
  simp only [(row_faithful E actionMask clip P gamma st key).reward]
  exact ⟨fun ht => if_neg (by simp [ht]), fun ht => if_neg (by simp [ht]), fun h1 h2 => if_pos (by simp [h1, h2])⟩

/-- **After a done step both the environment and the policy state restart.** -/
theorem post_done_fresh (st : StepState S PS) (key : K)
    (h : (collectStep E actionMask clip P gamma st key).2.done = true) :
    (collectStep E actionMask clip P gamma st key).1.env = E.initial (sub key 6) ∧
    (collectStep E actionMask clip P gamma st key).1.policy = P.reset (sub key 7) :=
  ⟨if_pos h, if_pos h⟩

/-- the step states a rollout passes through -/
def trace : StepState S PS → List K → List (StepState S PS)
  | st, [] => [st]
  | st, k :: ks => st :: trace (collectStep E actionMask clip P gamma st k).1 ks

theorem trace_head (st : StepState S PS) :
    ∀ keys : List K, (trace E actionMask clip P gamma st keys)[0]? = some st
  | [] => rfl
  | _ :: _ => rfl

/-- one more key: the step's row in front of the rollout from the state the step leads to -/
theorem collectRollout_cons (st : StepState S PS) (k : K) (ks : List K) :
    collectRollout E actionMask clip P gamma st (k :: ks) =
      ((collectRollout E actionMask clip P gamma (collectStep E actionMask clip P gamma st k).1 ks).1,
       (collectStep E actionMask clip P gamma st k).2 ::
         (collectRollout E actionMask clip P gamma (collectStep E actionMask clip P gamma st k).1 ks).2) := rfl

theorem rollout_length (st : StepState S PS) (keys : List K) :
    (collectRollout E actionMask clip P gamma st keys).2.length = keys.length := by
  induction keys generalizing st with
  | nil => rfl
  | cons k ks ih =>
      rw [collectRollout_cons]
      exact congrArg Nat.succ (ih _)

/-- **Row `t` of a rollout of any length is a faithful record of step `t`**, taken from the
    state the previous `t` steps led to. -/
theorem rollout_rows_faithful (st : StepState S PS) (keys : List K) (t : Nat) (ht : t < keys.length) :
    ∃ (s s' : StepState S PS) (row : Row PS O A M α),
      (trace E actionMask clip P gamma st keys)[t]? = some s ∧
      (trace E actionMask clip P gamma st keys)[t + 1]? = some s' ∧
      (collectRollout E actionMask clip P gamma st keys).2[t]? = some row ∧
      RowOK E actionMask clip P gamma s keys[t] s' row := by
  induction keys generalizing st t with
  | nil => cases ht
  | cons k ks ih =>
      cases t with
      | zero =>
          exact ⟨_, _, _, rfl, trace_head E actionMask clip P gamma _ ks, rfl,
            row_faithful E actionMask clip P gamma st k⟩
      | succ t =>
          -- one step in, position `t + 1` of trace and rows is position `t` of the rollout from the next state
          rw [collectRollout_cons]
          exact ih _ t (Nat.lt_of_succ_lt_succ ht)

/-- the final carried step state is the last state of the trace -/
theorem rollout_final (st : StepState S PS) (keys : List K) :
    (trace E actionMask clip P gamma st keys)[keys.length]? =
      some (collectRollout E actionMask clip P gamma st keys).1 := by
  induction keys generalizing st with
  | nil => rfl
  | cons k ks ih =>
      rw [collectRollout_cons]
      exact ih _

/-- **Parallel environments**: the rollout of environment `i` is the single-environment rollout
    from its own step state and keys (nothing crosses between environments). -/
theorem collectN_eq_map (envs : List (StepState S PS × List K)) (i : Nat) :
    (collectN E actionMask clip P gamma envs)[i]? =
      (envs[i]?).map (fun e => collectRollout E actionMask clip P gamma e.1 e.2) :=
  List.getElem?_map

end

/-! ### `filter_cond` (used for the two resets of `step`) selects whole branches -/

open Lerax.Utils

theorem combine_partition {α σ : Type} (t : List (Leaf α σ)) : combine (arrays t) (statics t) = t := by
  induction t with
  | nil => rfl
  | cons l ls ih =>
      cases l with
      | arr x => exact congrArg (Leaf.arr x :: ·) ih
      | static s => exact congrArg (Leaf.static s :: ·) ih

/-- **`filter_cond` returns the true branch's tree when the predicate holds and the false
    branch's otherwise** (given identical static leaves), and raises when the static leaves of
    the two branches differ — so after a done step the carried state is exactly the reset state,
    never a leaf-wise mixture of the two. -/
theorem filterCond_selects {α σ : Type} [DecidableEq σ] (pred : Bool) (t f : List (Leaf α σ)) :
    (statics t = statics f → filterCond pred t f = .ok (if pred then t else f)) ∧
    (statics t ≠ statics f → ∃ e, filterCond pred t f = .error e) := by
  refine ⟨fun h => ?_, fun h => ⟨_, if_pos h⟩⟩
  rw [filterCond, if_neg (not_not_intro h)]
  cases pred
  · exact congrArg Except.ok (h ▸ combine_partition f)
  · exact congrArg Except.ok (combine_partition t)

/-! ### non-vacuity: a coherent policy exists and a truncated-only step really bootstraps -/

instance : Keys Nat := ⟨fun k i => k + i⟩

def toyEnv : Env Nat Nat Nat Int Nat where
  initial _ := 0
  transition s _ _ := s + 1
  observation s _ := s
  reward _ _ _ _ := 1
  terminal _ _ := false
  truncate s := decide (2 ≤ s)

def toyPolicy : Policy Unit Nat Nat Unit Int Nat where
  actionAndValue _ o _ _ := ((), 0, (10 : Int) * o, -1)
  evaluate _ o _ _ := ((10 : Int) * o, -1)
  value _ o := (10 : Int) * o
  reset _ := ()

example : Coherent toyPolicy := by intro ps o k m; rfl

example : (collectStep toyEnv (fun _ _ => none) id toyPolicy 2 ⟨1, ()⟩ 0).2.reward = 1 + 2 * 20 ∧
    (collectStep toyEnv (fun _ _ => none) id toyPolicy 2 ⟨1, ()⟩ 0).1.env = 0 := by decide

end Lerax.C04
