/-
  C12 — JAX transformations are transparent; parallel environments never mix.

  Theorem-carried part: vectorised collection is `List.map` of single-environment collection,
  so stream `i` depends on environment `i`'s own start state and keys only (on-policy with GAE,
  off-policy with per-environment buffers).  That eager / jit / vmap evaluation of lerax's
  environment code agree is a statement about JAX's tracing; it is decided differentially
  (harness/c12.py).  The off-policy `vmap` is modelled in this file (`collectN`):
  `LeraxModel/OffPolicy.lean` stops at one environment.
-/
import LeraxModel.OffPolicy
import LeraxModel.Gae
import LeraxProofs.C04

namespace Lerax.C12
open Lerax.Env

section onpolicy
open Lerax.OnPolicy
variable {S A O K PS M α : Type} [Keys K] [Add α] [Mul α]

/-- **N parallel environments produce exactly the N single-environment rollouts** from the same
    per-environment keys and start states. -/
theorem collectN_eq_map (E : Env S A O α K) (mask : S → K → Option M) (clip : A → A)
    (P : Policy PS O A M α K) (γ : α) (envs : List (StepState S PS × List K)) (i : Nat) :
    (collectN E mask clip P γ envs)[i]? =
      (envs[i]?).map (fun e => collectRollout E mask clip P γ e.1 e.2) :=
  Lerax.C04.collectN_eq_map E mask clip P γ envs i

/-- **Nothing crosses between environments**: replacing any other environment's start state or
    keys leaves stream `i` (all rows and the final step state) unchanged. -/
theorem stream_independent (E : Env S A O α K) (mask : S → K → Option M) (clip : A → A)
    (P : Policy PS O A M α K) (γ : α) (envs : List (StepState S PS × List K)) (i j : Nat)
    (hij : i ≠ j) (e' : StepState S PS × List K) :
    (collectN E mask clip P γ (envs.set j e'))[i]? = (collectN E mask clip P γ envs)[i]? := by
  simp only [collectN, List.getElem?_map, List.getElem?_set_ne hij.symm]

end onpolicy

section offpolicy
open Lerax.OffPolicy
variable {S A O K PS α : Type} [Keys K]

/-- off-policy: each environment owns its buffer; collection is a map over environments — for
    `num_envs > 1`, `eqx.filter_vmap(self.collect_rollout, …)` over the stacked step states and the split
    keys (`off_policy.py:335-343`; the warm-up is `jax.vmap(self.collect_learning_starts, …)`, 306-308) -/
def collectN (E : Env S A O α K) (clip : A → A) (P : Policy PS O A K)
    (envs : List (StepState S PS O A α × List K)) : List (StepState S PS O A α) :=
  envs.map (fun e => collect E clip P e.1 e.2)

theorem off_stream_independent (E : Env S A O α K) (clip : A → A) (P : Policy PS O A K)
    (envs : List (StepState S PS O A α × List K)) (i j : Nat) (hij : i ≠ j)
    (e' : StepState S PS O A α × List K) :
    (collectN E clip P (envs.set j e'))[i]? = (collectN E clip P envs)[i]? := by
  simp only [collectN, List.getElem?_map, List.getElem?_set_ne hij.symm]

end offpolicy

section gae
open Lerax.Gae
variable {α : Type} [Add α] [Sub α] [Mul α] [Zero α] [One α]

/-- advantages of environment `i` are computed from environment `i`'s rollout only -/
theorem gae_stream_independent (γ lam : α) (envs : List (List α × List α × List Bool × α)) (i j : Nat)
    (hij : i ≠ j) (e' : List α × List α × List Bool × α) :
    (gaeBatch γ lam (envs.set j e'))[i]? = (gaeBatch γ lam envs)[i]? := by
  simp only [gaeBatch, List.getElem?_map, List.getElem?_set_ne hij.symm]

end gae
end Lerax.C12
