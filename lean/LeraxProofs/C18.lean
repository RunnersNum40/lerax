/-
  C18 — Saving and loading a policy restores it exactly or fails loudly.

  About `LeraxModel/Serial.lean` (model of `Serializable.serialize/deserialize`, of pathlib's
  stem/suffix rule and of Equinox's leaf-stream reader), for all paths, file-system states, trees
  and skeletons.  The reader is characterised once, as a Boolean identity (`isOk_deserialise`: a
  load returns a tree iff `acceptsAll`); the mismatch theorems are its contrapositive, the
  round-trip theorems instances of `deserialise_serialise_append`.  `eqx_reader_accepts_prefix` is
  the defect of the Equinox reader alone (lerax before the repair).
-/
import LeraxModel.Serial

namespace Lerax.C18
open Lerax.Serial

set_option linter.unusedSectionVars false

/-! ## pathlib's stem/suffix split -/

/-- `stem + suffix == name` for every file name -/
theorem splitName_join (n : Name) : (splitName n).1 ++ (splitName n).2 = n := by
  unfold splitName
  split
  · simp
  · next dot pre h =>
    split
    · simp
    · have key := List.takeWhile_append_dropWhile (p := (· != '.')) (l := n.reverse)
      rw [h] at key
      calc _ = (List.takeWhile (· != '.') n.reverse ++ dot :: pre).reverse := by simp
        _ = n := by rw [key]; simp

/-- a non-empty name has a non-empty stem -/
theorem stem_ne_nil (n : Name) (hn : n ≠ []) : (splitName n).1 ≠ [] := by
  unfold splitName
  split
  · exact hn
  · split
    · exact hn
    · next hc =>
      -- here the stem is `pre.reverse`, and the `if` has just tested `pre ≠ []`
      rw [Bool.or_eq_true, not_or, List.isEmpty_iff] at hc
      exact fun h => hc.1 (List.reverse_eq_nil_iff.mp h)

/-- re-parsing `stem + ".eqx"` gives back `(stem, ".eqx")` -/
theorem splitName_eqx (s : Name) (hs : s ≠ []) : splitName (s ++ eqx) = (s, eqx) := by
  -- reversed, the name reads "xqe." and then `s`: the scan for the last '.' stops right before `s`
  simp [splitName, eqx, List.dropWhile, List.takeWhile, hs]

/-! ## where `serialize` writes and where `deserialize` looks -/

theorem stem_append_suffix (p : Path) : p.stem ++ p.suffix = p.name := splitName_join p.name

theorem withSuffix_eqx_suffix (p : Path) (hn : p.name ≠ []) : (p.withSuffix eqx).suffix = eqx := by
  simp [Path.withSuffix, Path.suffix, Path.stem, splitName_eqx _ (stem_ne_nil _ hn)]

theorem eqx_ne_nil : eqx ≠ [] := by simp [eqx]

theorem withSuffix_eqx_suffix_ne_nil (p : Path) (hn : p.name ≠ []) : (p.withSuffix eqx).suffix ≠ [] :=
  fun h => eqx_ne_nil ((withSuffix_eqx_suffix p hn).symm.trans h)

/-! the two suffix rules, on the inputs that occur -/

theorem eqxWithSuffix_of_nil (p : Path) (h : p.suffix = []) : eqxWithSuffix p = p.withSuffix eqx :=
  if_pos (beq_iff_eq.mpr h)

theorem eqxWithSuffix_of_ne (p : Path) (h : p.suffix ≠ []) : eqxWithSuffix p = p :=
  if_neg (mt beq_iff_eq.mp h)

theorem leraxSuffix_true (p : Path) : leraxSuffix p true = p :=
  if_neg (by simp)

theorem leraxSuffix_eqx (p : Path) (ns : Bool) (h : p.suffix = eqx) : leraxSuffix p ns = p :=
  if_neg (by simp [h])

theorem leraxSuffix_false_of_ne (p : Path) (h : p.suffix ≠ eqx) :
    leraxSuffix p false = p.withSuffix eqx :=
  if_pos (by simp [h])

/-- `with_suffix` never touches the directory part -/
theorem savePath_dirs (p : Path) (ns : Bool) :
    (savePath p ns).abs = p.abs ∧ (savePath p ns).dirs = p.dirs := by
  unfold savePath eqxWithSuffix leraxSuffix Path.withSuffix
  split <;> split <;> simp

theorem loadPath_dirs (p : Path) : (loadPath p).abs = p.abs ∧ (loadPath p).dirs = p.dirs := by
  unfold loadPath eqxWithSuffix Path.withSuffix
  split <;> simp

/-- **Path round trip.**  For every path whose final component has suffix `""` or `".eqx"`,
    with or without `no_suffix`, the file that `serialize` writes is the file that
    `deserialize` of the same path string opens.  (`p.name ≠ []`: pathlib raises `ValueError`
    for an empty final component, on saving and on loading.) -/
theorem path_roundtrip (p : Path) (ns : Bool) (hn : p.name ≠ [])
    (h : p.suffix = [] ∨ p.suffix = eqx) : loadPath p = savePath p ns := by
  rw [loadPath, savePath]
  rcases h with h | h
  · -- no suffix: whoever sees the empty suffix first appends ".eqx"; Equinox then keeps it
    rw [eqxWithSuffix_of_nil p h]
    cases ns
    · rw [leraxSuffix_false_of_ne p (h ▸ Ne.symm eqx_ne_nil),
        eqxWithSuffix_of_ne _ (withSuffix_eqx_suffix_ne_nil p hn)]
    · rw [leraxSuffix_true, eqxWithSuffix_of_nil p h]
  · rw [leraxSuffix_eqx p ns h]

set_option linter.unusedVariables false in
/-- with `no_suffix=True` any non-empty suffix is kept by both sides (`h` only documents the case: lerax adds
    nothing then, whatever the suffix, and the proof does not use it) -/
theorem path_roundtrip_no_suffix (p : Path) (h : p.suffix ≠ []) : loadPath p = savePath p true := by
  rw [loadPath, savePath, leraxSuffix_true]

/-- **Other suffixes, `no_suffix=False`:** `serialize` *replaces* the suffix by `.eqx`, while
    `deserialize` opens the name as given — two different files in the same directory. -/
theorem path_other_suffix (p : Path) (h1 : p.suffix ≠ []) (h2 : p.suffix ≠ eqx) :
    savePath p false = p.withSuffix eqx ∧ loadPath p = p ∧
    (savePath p false).name ≠ (loadPath p).name := by
  have hn : p.name ≠ [] := fun h0 =>
    h1 (List.append_eq_nil_iff.mp ((stem_append_suffix p).trans h0)).2
  have hs : savePath p false = p.withSuffix eqx := by
    rw [savePath, leraxSuffix_false_of_ne p h2,
      eqxWithSuffix_of_ne _ (withSuffix_eqx_suffix_ne_nil p hn)]
  have hl : loadPath p = p := eqxWithSuffix_of_ne p h1
  refine ⟨hs, hl, ?_⟩
  rw [hs, hl]
  -- equal names would mean equal suffixes after the common stem
  exact fun he => h2 (List.append_cancel_left (he.trans (stem_append_suffix p).symm)).symm

/-- **Exactly when the two sides agree** (non-empty final component): suffix `""`, suffix
    `".eqx"`, or `no_suffix=True`. -/
theorem path_roundtrip_iff (p : Path) (ns : Bool) (hn : p.name ≠ []) :
    loadPath p = savePath p ns ↔ (p.suffix = [] ∨ p.suffix = eqx ∨ ns = true) := by
  constructor
  · intro h
    by_cases h1 : p.suffix = []
    · exact Or.inl h1
    by_cases h2 : p.suffix = eqx
    · exact Or.inr (Or.inl h2)
    cases ns
    · exact absurd (congrArg Path.name h).symm (path_other_suffix p h1 h2).2.2
    · exact Or.inr (Or.inr rfl)
  · rintro (h | h | h)
    · exact path_roundtrip p ns hn (Or.inl h)
    · exact path_roundtrip p ns hn (Or.inr h)
    · subst h
      by_cases h1 : p.suffix = []
      · exact path_roundtrip p true hn (Or.inl h1)
      · exact path_roundtrip_no_suffix p h1

section
variable {δ : Type} (coerce : DType → PyT → List δ → List δ)

theorem skeletonOf_cons (l : Leaf δ) (ls : Tree δ) : skeletonOf (l :: ls) = l.spec :: skeletonOf ls := rfl

theorem serialise_cons (l : Leaf δ) (ls : Tree δ) : serialise (l :: ls) = l.record :: serialise ls := rfl

theorem acceptsAll_cons (s : Spec) (ss : Skeleton) (r : Rec δ) (rs : Stream δ) :
    acceptsAll (s :: ss) (r :: rs) = (accepts s r && acceptsAll ss rs) := rfl

theorem readLeaf_self (l : Leaf δ) : readLeaf coerce l.spec l.record = .ok l := by
  cases l <;> simp [Leaf.spec, Leaf.record, readLeaf, numel]

theorem assertLeaf_self (l : Leaf δ) : assertLeaf l.spec l = .ok () := by
  cases l <;> simp [Leaf.spec, assertLeaf]

/-- reading with the saved tree's own skeleton consumes exactly its records, whatever follows -/
theorem readAll_serialise (t : Tree δ) (rest : Stream δ) :
    readAll coerce (skeletonOf t) (serialise t ++ rest) = .ok (t, rest) := by
  induction t with
  | nil => rfl
  | cons l ls ih =>
      rw [skeletonOf_cons, serialise_cons, List.cons_append, readAll, readLeaf_self, ih]

theorem assertAll_self (t : Tree δ) : assertAll (skeletonOf t) t = .ok () := by
  induction t with
  | nil => rfl
  | cons l ls ih =>
      rw [skeletonOf_cons, assertAll, assertLeaf_self]
      exact ih

/-- Both readers on a file that starts with the records of `t`, read with `t`'s own skeleton:
    Equinox's returns `t` whatever follows, the repaired one only if nothing follows. -/
theorem deserialise_serialise_append (t : Tree δ) (rest : Stream δ) :
    deserialiseEqx coerce (skeletonOf t) (serialise t ++ rest) = .ok t ∧
    deserialise coerce (skeletonOf t) (serialise t ++ rest)
      = if rest.isEmpty then .ok t else .error .trailing := by
  simp only [deserialiseEqx, deserialise, readAll_serialise, assertAll_self, and_self]

/-- **Leaf round trip.**  For every tree (any number of leaves, any shapes, dtypes, data, any
    mixture of arrays and Python scalars), loading what was saved with the skeleton built from
    the same constructor arguments returns exactly that tree — every data element identical. -/
theorem leaf_roundtrip (t : Tree δ) :
    deserialise coerce (skeletonOf t) (serialise t) = .ok t := by
  simpa using (deserialise_serialise_append coerce t []).2

/-- … **and therefore identical actions, values and log-probabilities on every observation**:
    anything computed from the leaves (and from constructor arguments) agrees. -/
theorem roundtrip_outputs {β : Type} (f : Tree δ → β) (t t' : Tree δ)
    (h : deserialise coerce (skeletonOf t) (serialise t) = .ok t') : f t' = f t := by
  rw [leaf_roundtrip] at h
  cases h; rfl

theorem serialise_append (t u : Tree δ) : serialise (t ++ u) = serialise t ++ serialise u :=
  List.map_append

/-- **The defect in the unrepaired code**, for every tree and every continuation: Equinox's
    reader returns the *shorter* tree from a file that holds a longer one — silently. -/
theorem eqx_reader_accepts_prefix (t extra : Tree δ) :
    deserialiseEqx coerce (skeletonOf t) (serialise (t ++ extra)) = .ok t := by
  rw [serialise_append]
  exact (deserialise_serialise_append coerce t _).1

/-- the repaired reader rejects exactly that situation -/
theorem longer_file_fails (t extra : Tree δ) (he : extra ≠ []) :
    deserialise coerce (skeletonOf t) (serialise (t ++ extra)) = .error .trailing := by
  rw [serialise_append, (deserialise_serialise_append coerce t _).2,
    if_neg (by simpa [serialise] using he)]

/-! ## the acceptance rule is the reader's -/

theorem isOk_iff {ε α : Type} (x : Except ε α) : isOk x = true ↔ ∃ a, x = .ok a := by
  cases x <;> simp [isOk]

theorem isOk_eq_false_iff {ε α : Type} (x : Except ε α) : isOk x = false ↔ ∃ e, x = .error e := by
  cases x <;> simp [isOk]

/-- one leaf: `accepts` says whether reading and then `_assert_same` go through -/
theorem accepts_eq (s : Spec) (r : Rec δ) :
    accepts s r = (match readLeaf coerce s r with
      | .ok l => isOk (assertLeaf s l)
      | .error _ => false) := by
  cases s with
  | arr sh d =>
      simp only [accepts, readLeaf, assertLeaf]
      by_cases h1 : r.shape = sh
      · by_cases h2 : r.dtype = d
        · simp [h1, h2, isOk]
        · simp [h1, h2, isOk]
      · simp [h1, isOk]
  | py t =>
      simp only [accepts, readLeaf]
      cases numel r.shape == 1 <;> rfl

/-- the whole file: the two passes succeed and leave nothing unread exactly when every record
    meets its leaf's rule and the numbers agree.  One induction gives both directions. -/
theorem acceptsAll_eq : ∀ (sk : Skeleton) (rs : Stream δ),
    acceptsAll sk rs = (match readAll coerce sk rs with
      | .ok (t, rest) => isOk (assertAll sk t) && rest.isEmpty
      | .error _ => false)
  | [], [] | [], _ :: _ | _ :: _, [] => rfl
  | s :: ss, r :: rs => by
      rw [acceptsAll_cons, readAll, accepts_eq coerce s r, acceptsAll_eq ss rs]
      cases readLeaf coerce s r with
      | error e => rfl
      | ok l =>
          cases readAll coerce ss rs with
          | error e => exact Bool.and_false _
          | ok p =>
              simp only [assertAll]
              cases assertLeaf s l with
              | error e => rfl
              | ok u => simp only [isOk, Bool.true_and]

theorem isOk_deserialise (sk : Skeleton) (rs : Stream δ) :
    isOk (deserialise coerce sk rs) = acceptsAll sk rs := by
  rw [acceptsAll_eq coerce, deserialise]
  cases readAll coerce sk rs with
  | error e => rfl
  | ok p =>
      obtain ⟨t, rest⟩ := p
      dsimp only
      cases assertAll sk t with
      | error e => rfl
      | ok u => cases rest <;> rfl

/-- **The reader's behaviour, exactly**: a load returns a tree iff the file holds as many
    records as the skeleton has leaves and each record meets its leaf's rule — equal shape and
    dtype for arrays, exactly one element for Python scalars. -/
theorem deserialise_ok_iff (sk : Skeleton) (rs : Stream δ) :
    (∃ t, deserialise coerce sk rs = .ok t) ↔ acceptsAll sk rs = true := by
  rw [← isOk_deserialise coerce, isOk_iff]

theorem acceptsAll_length : ∀ (sk : Skeleton) (rs : Stream δ),
    acceptsAll sk rs = true → rs.length = sk.length
  -- a stream of another length needs no case: `acceptsAll` of it is `false`, and `h` is among the patterns
  | [], [], _ => rfl
  | _ :: ss, _ :: rs, h =>
      congrArg Nat.succ (acceptsAll_length ss rs (Bool.and_eq_true_iff.1 h).2)

/-- one aligned pair: accepted, and not a cross-kind coercion ⇒ same signature -/
theorem spec_eq_of_accepts (s : Spec) (l : Leaf δ) (ha : accepts s l.record = true)
    (hc : kindOk s l = true) : l.spec = s := by
  cases s with
  | arr sh d =>
      cases l with
      | arr sh' d' x =>
          -- `accepts` compares shape and dtype
          simp only [accepts, Leaf.record, Bool.and_eq_true, beq_iff_eq] at ha
          rw [Leaf.spec, ha.1, ha.2]
      | py t x =>
          -- a scalar under an array leaf: `kindOk` says exactly that `accepts` fails
          simp only [accepts, Leaf.record] at ha
          rw [kindOk, ha] at hc
          cases hc
  | py t =>
      cases l with
      | arr sh' d' x =>
          -- an array under a scalar leaf: likewise
          simp only [accepts, Leaf.record] at ha
          rw [kindOk, ha] at hc
          cases hc
      | py t' x =>
          -- `kindOk` is `t = t'`
          rw [kindOk, beq_iff_eq] at hc
          rw [Leaf.spec, hc]

theorem skeleton_eq_of_acceptsAll : ∀ (sk : Skeleton) (t : Tree δ),
    acceptsAll sk (serialise t) = true → noCoercion sk t = true → skeletonOf t = sk
  | [], [], _, _ => rfl
  | s :: ss, l :: ls, h, hc => by
      obtain ⟨h1, h2⟩ := Bool.and_eq_true_iff.1 h
      obtain ⟨c1, c2⟩ := Bool.and_eq_true_iff.1 hc
      rw [skeletonOf_cons, spec_eq_of_accepts s l h1 c1, skeleton_eq_of_acceptsAll ss ls h2 c2]

theorem fails_of_not_acceptsAll (sk : Skeleton) (rs : Stream δ) (h : ¬ acceptsAll sk rs = true) :
    ∃ e, deserialise coerce sk rs = .error e :=
  (isOk_eq_false_iff _).mp ((isOk_deserialise coerce sk rs).trans (Bool.eq_false_iff.mpr h))

/-- **Mismatch fails loudly.**  For ALL pairs (saved tree, skeleton): if their leaf signature
    lists differ — in a shape, a dtype, the number of leaves, *including the case where one list
    is a strict prefix of the other* — then loading is an error, never a tree.  The only
    hypothesis is `noCoercion`: no aligned pair of leaves of *different kind* (array vs Python
    `bool`/`int`/`float`) that Equinox's scalar conversion `type(x)(np.load(f).item())` would
    accept anyway (see `coercion_is_silent` below: without it the statement is false for the
    Equinox reader).  Trees of arrays only need no hypothesis (`mismatch_fails_arrays`). -/
theorem mismatch_fails (sk : Skeleton) (t : Tree δ) (hne : skeletonOf t ≠ sk)
    (hc : noCoercion sk t = true) : ∃ e, deserialise coerce sk (serialise t) = .error e :=
  fails_of_not_acceptsAll coerce sk _ fun h => hne (skeleton_eq_of_acceptsAll sk t h hc)

/-- **Different number of leaves ⇒ error, unconditionally** (file longer than the skeleton —
    the repaired end-of-file rule — or shorter — `EOFError`; an earlier leaf may fail first). -/
theorem length_mismatch_fails (sk : Skeleton) (t : Tree δ) (hl : t.length ≠ sk.length) :
    ∃ e, deserialise coerce sk (serialise t) = .error e :=
  fails_of_not_acceptsAll coerce sk _ fun h =>
    hl (by rw [← acceptsAll_length sk _ h, serialise, List.length_map])

theorem kindOk_of_isArr : ∀ (s : Spec) (l : Leaf δ), s.isArr = true → l.spec.isArr = true →
    kindOk s l = true
  | .arr _ _, .arr _ _ _, _, _ => rfl

theorem noCoercion_of_arrays : ∀ (sk : Skeleton) (t : Tree δ),
    (∀ s ∈ sk, s.isArr = true) → (∀ s ∈ skeletonOf t, s.isArr = true) → noCoercion sk t = true
  | [], [], _, _ | [], _ :: _, _, _ | _ :: _, [], _, _ => rfl
  | s :: ss, l :: ls, h1, h2 => by
      rw [List.forall_mem_cons] at h1
      rw [skeletonOf_cons, List.forall_mem_cons] at h2
      exact Bool.and_eq_true_iff.2
        ⟨kindOk_of_isArr s l h1.1 h2.1, noCoercion_of_arrays ss ls h1.2 h2.2⟩

/-- arrays only (network parameters, space bounds): no hypothesis at all -/
theorem mismatch_fails_arrays (sk : Skeleton) (t : Tree δ) (hne : skeletonOf t ≠ sk)
    (h1 : ∀ s ∈ sk, s.isArr = true) (h2 : ∀ s ∈ skeletonOf t, s.isArr = true) :
    ∃ e, deserialise coerce sk (serialise t) = .error e :=
  mismatch_fails coerce sk t hne (noCoercion_of_arrays sk t h1 h2)

/-! ## through the file system: new directories, the written file, the opened file -/

theorem mem_prefixes (d : List Name) : d ∈ prefixes d := by
  induction d with
  | nil => simp [prefixes]
  | cons x xs ih => simp [prefixes, ih]

/-- the key of a path depends on the file system through `cwd` only -/
theorem key_congr {fs fs' : FS (Stream δ)} (h : fs'.cwd = fs.cwd) (p : Path) : fs'.key p = fs.key p := by
  rw [FS.key, FS.absDir, h]
  rfl

theorem key_savePath (fs : FS (Stream δ)) (p : Path) (ns : Bool) :
    fs.key (savePath p ns) = (fs.absDir p, (savePath p ns).name) := by
  simp [FS.key, FS.absDir, savePath_dirs]

theorem key_loadPath (fs : FS (Stream δ)) (p : Path) :
    fs.key (loadPath p) = (fs.absDir p, (loadPath p).name) := by
  simp [FS.key, FS.absDir, loadPath_dirs]

/-- **Saving never fails for want of a directory**: whatever exists beforehand (in particular
    when the target directory, or any number of its ancestors, does not exist yet) the file is
    written, under the resolved name, with the tree's records; nothing else changes. -/
theorem save_ok (fs : FS (Stream δ)) (p : Path) (ns : Bool) (t : Tree δ) :
    ∃ fs', fs.save p ns t = .ok fs' ∧ fs'.cwd = fs.cwd ∧
      fs'.files = ((fs.absDir p, (savePath p ns).name), serialise t) :: fs.files := by
  simp only [FS.save]
  split
  · next hd =>
    rw [key_savePath, FS.write, if_pos hd]
    exact ⟨_, rfl, rfl, rfl⟩
  · -- `mkdir -p` first: the key is the same (it only looks at `cwd`), and now the directory is there
    rw [key_congr (fs' := fs.mkdirP (fs.absDir p)) (fs := fs) rfl, key_savePath, FS.write,
      if_pos (by simp [FS.mkdirP, mem_prefixes])]
    exact ⟨_, rfl, rfl, rfl⟩

/-- reading after a write: the written stream under the written key, the old answer under any other -/
theorem read_of_files_cons {fs fs' : FS (Stream δ)} {k' : Key} {s : Stream δ}
    (hf : fs'.files = (k', s) :: fs.files) (k : Key) :
    fs'.read k = if k == k' then .ok s else fs.read k := by
  rw [FS.read, FS.read, hf, List.lookup_cons]
  cases k == k' <;> rfl

/-- **Save, then load with the same path string and the same constructor arguments**: for
    every file system state, every path with suffix `""` or `".eqx"` (relative or absolute,
    existing or new directories), with or without `no_suffix`, and every tree, the load returns
    exactly the saved tree. -/
theorem save_load_roundtrip (fs : FS (Stream δ)) (p : Path) (ns : Bool) (t : Tree δ)
    (hn : p.name ≠ []) (h : p.suffix = [] ∨ p.suffix = eqx) :
    ∃ fs', fs.save p ns t = .ok fs' ∧ fs'.load coerce p (skeletonOf t) = .ok t := by
  obtain ⟨fs', hs, hcwd, hf⟩ := save_ok fs p ns t
  refine ⟨fs', hs, ?_⟩
  have hk : fs'.key (loadPath p) = (fs.absDir p, (savePath p ns).name) := by
    rw [key_congr hcwd, key_loadPath, path_roundtrip p ns hn h]
  rw [FS.load, read_of_files_cons hf, hk, if_pos (beq_self_eq_true _)]
  exact leaf_roundtrip coerce t

/-- **Other suffixes (`model.ckpt`, `model.v1.5`, …) with `no_suffix=False`**: the save goes to
    `<stem>.eqx`; loading the same path string looks for the name as given and — unless such a
    file was already there — fails with file-not-found (loudly), for every skeleton. -/
theorem save_load_other_suffix (fs : FS (Stream δ)) (p : Path) (t : Tree δ) (sk : Skeleton)
    (h1 : p.suffix ≠ []) (h2 : p.suffix ≠ eqx)
    (hfresh : fs.files.lookup (fs.key (loadPath p)) = none) :
    ∃ fs', fs.save p false t = .ok fs' ∧ fs'.load coerce p sk = .error .notFound := by
  obtain ⟨fs', hs, hcwd, hf⟩ := save_ok fs p false t
  refine ⟨fs', hs, ?_⟩
  have hne : ((fs.key (loadPath p)) == ((fs.absDir p, (savePath p false).name) : Key)) = false := by
    rw [key_loadPath]
    have := (path_other_suffix p h1 h2).2.2
    simp [Ne.symm this]
  rw [FS.load, read_of_files_cons hf, key_congr hcwd, hne, FS.read, hfresh]
  rfl

end

section
variable {δ : Type} [DecidableEq δ] (coerce : DType → PyT → List δ → List δ)

theorem phi_path (fs : FS (Stream δ)) (p : Path) (ns : Bool) (hn : p.name ≠ []) :
    phiPath fs p (fs.key (savePath p ns)) = true := by
  by_cases h : roundtripSuffix p = true
  · have h' : p.suffix = [] ∨ p.suffix = eqx := by simpa [roundtripSuffix] using h
    simp [phiPath, path_roundtrip p ns hn h']
  · simp [phiPath, h]

theorem phi_roundtrip (t : Tree δ) :
    phiRoundtrip t (deserialise coerce (skeletonOf t) (serialise t)) = true := by
  simp [leaf_roundtrip, phiRoundtrip]

theorem phi_mismatch (sk : Skeleton) (t : Tree δ) :
    phiMismatch sk t (isOk (deserialise coerce sk (serialise t))) = true := by
  by_cases h : (skeletonOf t != sk && noCoercion sk t) = true
  · simp only [Bool.and_eq_true, bne_iff_ne, ne_eq] at h
    obtain ⟨e, he⟩ := mismatch_fails coerce sk t h.1 h.2
    simp [phiMismatch, he, isOk]
  · simp [phiMismatch, h]

end

/-! ## non-vacuity, and witnesses for the unrepaired behaviour -/

/-- fill a skeleton with data (zeros) -/
def inhabit : Skeleton → Tree Nat
  | [] => []
  | .arr s d :: ss => .arr s d (List.replicate (numel s) 0) :: inhabit ss
  | .py t :: ss => .py t [0] :: inhabit ss

def noConv : DType → PyT → List Nat → List Nat := fun _ _ x => x

/-- a new, dotted directory; no suffix; both `no_suffix` settings end at `…/model.eqx` -/
example :
    let p := parsePath "runs/v1.2/model".toList
    p.name ≠ [] ∧ p.suffix = [] ∧ loadPath p = savePath p false ∧ loadPath p = savePath p true ∧
    (savePath p false).name = "model.eqx".toList ∧ (savePath p false).dirs = p.dirs := by decide +kernel

/-- `model.v1.5`: saved as `model.v1.eqx`, looked for as `model.v1.5` -/
example :
    let p := parsePath "/abs/model.v1.5".toList
    (savePath p false).name = "model.v1.eqx".toList ∧ (loadPath p).name = "model.v1.5".toList ∧
    (savePath p true).name = "model.v1.5".toList := by decide +kernel

def exTree : Tree Nat :=
  [.arr [2] .f32 [10, 11], .py .pfloat [7], .arr [3, 2] .f32 [1, 2, 3, 4, 5, 6], .arr [] .f32 [9]]

example : deserialise noConv (skeletonOf exTree) (serialise exTree) = .ok exTree :=
  leaf_roundtrip noConv exTree

/-- a different width is refused -/
example : errOf (deserialise noConv [.arr [2] .f32, .py .pfloat, .arr [4, 2] .f32, .arr [] .f32]
    (serialise exTree)) = some .shape := by decide

/-- `MLPQPolicy` on `Discrete(4)`, `Box(3)` observations, `width_size = 4 = n`: the depth-1 leaf
    list is a strict prefix of the depth-2 one … -/
def q1 : Skeleton := qSpecs .f32 4 [.box [3]] .pfloat 4 1
def q2 : Skeleton := qSpecs .f32 4 [.box [3]] .pfloat 4 2

example : q1 ≠ q2 ∧ q1.isPrefixOf q2 = true ∧ q1.length = 7 ∧ q2.length = 9 := by decide

/-- … Equinox's reader alone loads the depth-2 file into the depth-1 policy without complaint
    (the behaviour of lerax before the repair) … -/
example : isOk (deserialiseEqx noConv q1 (serialise (inhabit q2))) = true := by decide

/-- … the repaired `deserialize` refuses it, and the other direction fails with end-of-file. -/
example : errOf (deserialise noConv q1 (serialise (inhabit q2))) = some .trailing := by decide
example : errOf (deserialise noConv q2 (serialise (inhabit q1))) = some .eof := by decide

/-- same phenomenon for `MLPActorCriticPolicy` (`feature_size = action_width = n = 3`,
    `action_depth` 2 vs 3) -/
example :
    let a := acSpecs .f32 (.discrete 3) [.box [2]] 3 4 1 4 1 3 2
    let b := acSpecs .f32 (.discrete 3) [.box [2]] 3 4 1 4 1 3 3
    a ≠ b ∧ a.isPrefixOf b = true ∧ isOk (deserialiseEqx noConv a (serialise (inhabit b))) = true ∧
    errOf (deserialise noConv a (serialise (inhabit b))) = some .trailing := by decide +kernel

/-- **Why `mismatch_fails` needs `noCoercion`.**  Equinox converts whatever one-element record
    it finds at a Python-scalar leaf.  A file saved from an actor-critic on a `Box((1,))` action
    space with `Tuple(Discrete, Box(2))` observations has the same number of leaves as the
    policy on `MultiDiscrete((1,))` with `Tuple(Box(1), Box(2))` observations, equal array
    shapes throughout, and `bool`/`float32[1]` records where the latter keeps two `int`s: the
    signature lists differ, `noCoercion` is false, and the load succeeds. -/
example :
    let a := acSpecs .f32 (.box [1]) [.discrete 3, .box [2]] 4 4 1 4 1 4 1
    let b := acSpecs .f32 (.multiDiscrete [1]) [.box [1], .box [2]] 4 4 1 4 1 4 1
    a ≠ b ∧ noCoercion b (inhabit a) = false ∧
    isOk (deserialise noConv b (serialise (inhabit a))) = true := by decide +kernel

end Lerax.C18
