/-
  Equations of the `Replay` model: what one `add` does to each field of the buffer (and to the
  counter over a history), and what `contents`, `validMask` and the flattened views of stacked
  buffers read at an index.
-/
import LeraxModel.Replay
import LeraxProofs.ListFacts

namespace Lerax.Replay

variable {ρ : Type}

theorem add_pos (b : Buf ρ) (r : ρ) : (add b r).pos = b.pos + 1 := rfl

theorem add_cap (b : Buf ρ) (r : ρ) : (add b r).cap = b.cap := rfl

theorem add_slots_length (b : Buf ρ) (r : ρ) : (add b r).slots.length = b.slots.length :=
  List.length_set

theorem getElem?_add_self (b : Buf ρ) (r : ρ) (h : b.pos % b.cap < b.slots.length) :
    (add b r).slots[b.pos % b.cap]? = some (some r) :=
  List.getElem?_set_self h

theorem getElem?_add_ne (b : Buf ρ) (r : ρ) {j : Nat} (h : b.pos % b.cap ≠ j) :
    (add b r).slots[j]? = b.slots[j]? :=
  List.getElem?_set_ne h

theorem foldl_add_pos (b : Buf ρ) (rows : List ρ) :
    (rows.foldl add b).pos = b.pos + rows.length :=
  ListFacts.foldl_counter add Buf.pos add_pos rows b

theorem contents_eq (b : Buf ρ) : contents b =
    (List.range (min b.pos b.cap)).filterMap
      (fun i => b.slots.getD ((b.pos - min b.pos b.cap + i) % b.cap) none) := rfl

theorem validMask_getElem? (b : Buf ρ) {j : Nat} (hj : j < b.cap) :
    (validMask b)[j]? = some (decide (j < min b.pos b.cap)) := by
  unfold validMask
  rw [List.getElem?_map, List.getElem?_range hj]
  rfl

theorem validMask_length (b : Buf ρ) : (validMask b).length = b.cap := by
  unfold validMask
  rw [List.length_map, List.length_range]

/-! stacked buffers of one capacity `C`: flat index `e * C + j` is slot `j` of buffer `e` -/

variable {C : Nat} (bs : List (Buf ρ))

theorem flatSlots_getElem? (h : ∀ b ∈ bs, b.slots.length = C) {e j : Nat} (he : e < bs.length)
    (hj : j < C) : (flatSlots bs)[e * C + j]? = bs[e].slots[j]? :=
  ListFacts.getElem?_flatten_map_uniform C Buf.slots bs h he hj

theorem validMask_uniform (h : ∀ b ∈ bs, b.cap = C) : ∀ m ∈ bs.map validMask, m.length = C :=
  List.forall_mem_map.mpr fun b hb => (validMask_length b).trans (h b hb)

theorem flatMask_getElem? (h : ∀ b ∈ bs, b.cap = C) {e j : Nat} (he : e < bs.length)
    (hj : j < C) : (flatMask bs)[e * C + j]? = (validMask bs[e])[j]? :=
  ListFacts.getElem?_flatten_map_uniform C validMask bs
    (fun b hb => (validMask_length b).trans (h b hb)) he hj

theorem flatMask_length (h : ∀ b ∈ bs, b.cap = C) : (flatMask bs).length = bs.length * C := by
  unfold flatMask
  rw [ListFacts.length_flatten_uniform C _ (validMask_uniform bs h), List.length_map]

end Lerax.Replay
