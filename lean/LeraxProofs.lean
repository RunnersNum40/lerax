import LeraxProofs.C01
import LeraxProofs.C03
import LeraxProofs.C13
import LeraxProofs.C06
import LeraxProofs.C09
import LeraxProofs.C04
import LeraxProofs.C05
import LeraxProofs.C07
import LeraxProofs.C08
import LeraxProofs.C10
import LeraxProofs.C18
import LeraxProofs.C19
import LeraxProofs.C14
import LeraxProofs.Clip
import LeraxProofs.LearnSim
import LeraxProofs.ListFacts
import LeraxProofs.ReplayAdd
import LeraxProofs.C11
import LeraxProofs.C12
import LeraxProofs.C20
import LeraxProofs.C15
import LeraxProofs.C15Cont
import LeraxProofs.C16
import LeraxProofs.C17
import LeraxProofs.Pipeline
import LeraxProofs.PipelineOff
import LeraxProofs.PipelineOn
import LeraxProofs.C02Stack
import LeraxProofs.PipelineLog
import LeraxProofs.CallbackList
import LeraxProofs.C06Int32
import LeraxProofs.C06Int32Transfer
