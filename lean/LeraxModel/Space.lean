/-
  Model of lerax's spaces (`/repo/src/lerax/space/{box,discrete,multi_binary,multi_discrete,
  dict,tuple,utils}.py`) and of the two space converters in
  `/repo/src/lerax/compatibility/gym.py` (`lerax_to_gym_space`, `gym_space_to_lerax_space`).

  The model mirrors the code AFTER the repairs recorded for property C14 (patches 01–09);
  the pre-repair behaviour of every repaired method is kept as a `Legacy…` definition at the
  end of the file (refuted on concrete witnesses in `LeraxProofs/C14.lean`).

  Numbers.  An array entry is a `Num α`: a finite number `fin x` (`x : α`; the driver uses
  `Float`, the proofs an ordered field), IEEE negative zero `nzero` (the number 0 with the sign
  bit set — it compares equal to `fin 0` but has different bytes), `pinf`, `ninf`, `nan`.
  Comparisons follow IEEE-754 (`nan` compares false with everything).  Integrality of a finite
  number (`x == floor x`) is the function parameter `isInt`; naturals are cast with `NatCast`.

  Values.  `Val` covers everything a caller can hand to `contains`: arrays and Python scalars
  (`arr shape data`, row-major), tuples, lists, `OrderedDict`s, plain `dict`s and foreign
  objects (`str`, `None`, `object()`, …).
  `tryCast` is `jnp.asarray` wrapped by `utils.try_cast`: nested tuples/lists of equal-shaped
  castable things become one array, everything else (ragged nesting, dicts, foreign) is `none`.
-/
namespace Lerax.Space

/-! ## Numbers -/

inductive Num (α : Type) where
  | fin (x : α)
  | nzero
  | pinf
  | ninf
  | nan
  deriving Repr, DecidableEq, Inhabited

section NumOps
variable {α : Type} [Zero α] [LE α] [LT α] [DecidableLE α] [DecidableLT α]

/-- `jnp.isfinite`: the finite value of an entry (`-0.0` is the number 0) -/
def Num.fin? : Num α → Option α
  | .fin x => some x
  | .nzero => some 0
  | _ => none

/-- IEEE `a <= b` -/
def Num.le : Num α → Num α → Bool
  | .nan, _ => false
  | _, .nan => false
  | .ninf, _ => true
  | _, .pinf => true
  | .pinf, _ => false
  | _, .ninf => false
  | .fin x, .fin y => decide (x ≤ y)
  | .fin x, .nzero => decide (x ≤ 0)
  | .nzero, .fin y => decide ((0 : α) ≤ y)
  | .nzero, .nzero => true

/-- IEEE `a == b` (as computed by `jnp.array_equal`, `x == 0`): `a <= b` and `b <= a` -/
def Num.eqv (a b : Num α) : Bool := a.le b && b.le a

/-- `0 <= x` -/
def Num.nonneg (x : Num α) : Bool := (Num.fin 0).le x

/-- `x < n` for a Python int `n` -/
def Num.ltNat [NatCast α] : Num α → Nat → Bool
  | .fin y, n => decide (y < (n : α))
  | .nzero, n => decide ((0 : α) < (n : α))
  | .ninf, _ => true
  | _, _ => false

/-- `x == jnp.floor(x)`: `floor` fixes ±inf, NaN is unequal to itself -/
def Num.integral (isInt : α → Bool) : Num α → Bool
  | .fin y => isInt y
  | .nzero => isInt 0
  | .pinf => true
  | .ninf => true
  | .nan => false

/-- the number an entry denotes, forgetting the sign of zero (what Python's `hash`/`==` of the
    float sees); used for hashing and for "equal parameters" -/
def Num.canon : Num α → Num α
  | .nzero => .fin 0
  | x => x

end NumOps

/-! ## Values and spaces -/

inductive Val (α : Type) where
  | arr (shape : List Nat) (data : List (Num α))
  | tuple (xs : List (Val α))
  | list (xs : List (Val α))
  | odict (kvs : List (String × Val α))
  | pdict (kvs : List (String × Val α))
  | foreign
  deriving Repr, Inhabited

inductive Space (α : Type) where
  | box (shape : List Nat) (low high : List (Num α))
  | discrete (n : Nat)
  | multiBinary (shape : List Nat)
  | multiDiscrete (nvec : List Nat)
  | dict (fields : List (String × Space α))
  | tuple (items : List (Space α))
  deriving Repr, Inhabited

/-- number of entries of an array of the given shape -/
def prod : List Nat → Nat
  | [] => 1
  | d :: ds => d * prod ds

/-- two lists are related entry by entry (and have the same length) -/
def All2 {β γ : Type} (R : β → γ → Prop) : List β → List γ → Prop
  | [], [] => True
  | b :: bs, c :: cs => R b c ∧ All2 R bs cs
  | _, _ => False

/-- keys of an association list -/
def keys {β : Type} (kvs : List (String × β)) : List String := kvs.map (·.1)

section Cast
variable {α : Type}

abbrev Arr (α : Type) := List Nat × List (Num α)

/-- `np.array([a₀, a₁, …])`: all parts must have one shape -/
def stack : List (Arr α) → Option (Arr α)
  | [] => some ([0], [])
  | (sh, d) :: rest =>
      if rest.all (fun a => a.1 == sh) then
        some ((rest.length + 1) :: sh, d ++ (rest.map (·.2)).flatten)
      else none

mutual
/-- `utils.try_cast` (repaired: every conversion failure is `None`) -/
def tryCast : Val α → Option (Arr α)
  | .arr sh d => if d.length = prod sh then some (sh, d) else none
  | .tuple xs => match castAll xs with
      | some parts => stack parts
      | none => none
  | .list xs => match castAll xs with
      | some parts => stack parts
      | none => none
  | .odict _ => none
  | .pdict _ => none
  | .foreign => none
def castAll : List (Val α) → Option (List (Arr α))
  | [] => some []
  | x :: xs => match tryCast x, castAll xs with
      | some a, some as => some (a :: as)
      | _, _ => none
end

end Cast

/-! ## `contains` -/

section Contains
variable {α : Type} [Zero α] [One α] [LE α] [LT α] [DecidableLE α] [DecidableLT α] [NatCast α]
variable (isInt : α → Bool)

/-- `jnp.all(a <= b)` for equal shapes -/
def allLe : List (Num α) → List (Num α) → Bool
  | [], [] => true
  | a :: as, b :: bs => a.le b && allLe as bs
  | _, _ => false

/-- `Box.contains` -/
def boxContains (sh : List Nat) (lo hi : List (Num α)) (v : Val α) : Bool :=
  match tryCast v with
  | none => false
  | some (xs, d) => xs == sh && allLe lo d && allLe d hi

/-- integral, `0 <= x`, `x < n` -/
def isIndex (x : Num α) (n : Nat) : Bool := x.integral isInt && x.nonneg && x.ltNat n

/-- `Discrete.contains` -/
def discreteContains (n : Nat) (v : Val α) : Bool :=
  match tryCast v with
  | some ([], [x]) => isIndex isInt x n
  | _ => false

/-- `(x == 0) | (x == 1)` -/
def isBit (x : Num α) : Bool := x.eqv (.fin 0) || x.eqv (.fin 1)

/-- `MultiBinary.contains` (repaired: `all` over every axis) -/
def multiBinaryContains (sh : List Nat) (v : Val α) : Bool :=
  match tryCast v with
  | none => false
  | some (xs, d) => xs == sh && d.all isBit

def allIndex : List (Num α) → List Nat → Bool
  | [], [] => true
  | x :: xs, n :: ns => isIndex isInt x n && allIndex xs ns
  | _, _ => false

/-- `MultiDiscrete.contains` (repaired: `0 <= x` is tested) -/
def multiDiscreteContains (nvec : List Nat) (v : Val α) : Bool :=
  match tryCast v with
  | none => false
  | some (xs, d) => xs == [nvec.length] && allIndex isInt d nvec

/-- `self.spaces.keys() != x.keys()` is a comparison of key *sets* -/
def keysEq (a b : List String) : Bool := a.all (b.contains ·) && b.all (a.contains ·)

mutual
/-- `space.contains(x)`; the answer is a Python/JAX scalar boolean by construction -/
def contains : Space α → Val α → Bool
  | .box sh lo hi, v => boxContains sh lo hi v
  | .discrete n, v => discreteContains isInt n v
  | .multiBinary sh, v => multiBinaryContains sh v
  | .multiDiscrete nvec, v => multiDiscreteContains isInt nvec v
  | .dict fs, .odict kvs => keysEq (keys fs) (keys kvs) && containsFields fs kvs
  | .dict _, _ => false
  | .tuple ss, .tuple xs => xs.length == ss.length && containsList ss xs
  | .tuple _, _ => false
/-- `all(space.contains(x[key]) for key, space in self.spaces.items())` -/
def containsFields : List (String × Space α) → List (String × Val α) → Bool
  | [], _ => true
  | (k, s) :: fs, kvs =>
      (match kvs.lookup k with
       | some x => contains s x
       | none => false) && containsFields fs kvs
/-- `all(space.contains(x_i) for space, x_i in zip(self.spaces, x))` -/
def containsList : List (Space α) → List (Val α) → Bool
  | [], [] => true
  | s :: ss, x :: xs => contains s x && containsList ss xs
  | _, _ => false
end

/-- what `contains` hands back to the caller -/
inductive CResult where
  | scalar (b : Bool)
  | array (shape : List Nat)
  | raised (exc : String)
  deriving Repr, DecidableEq

def containsR (s : Space α) (v : Val α) : CResult := .scalar (contains isInt s v)

/-! ### Specification of membership, independent of the code's structure -/

/-- `x` is one of the indices `0, 1, …, n-1` -/
def IsIndex (x : Num α) (n : Nat) : Prop :=
  ∃ y, x.fin? = some y ∧ isInt y = true ∧ (0 : α) ≤ y ∧ y < (n : α)

/-- `x` is the number 0 or the number 1 -/
def IsBit (x : Num α) : Prop := x.fin? = some 0 ∨ x.fin? = some 1

mutual
/-- membership: right container type, right shape, entries integral where required and within
    the inclusive bounds (extended-real order `Num.le`, never true for NaN) -/
def Mem : Space α → Val α → Prop
  | .box sh lo hi, v => ∃ d, tryCast v = some (sh, d) ∧
      All2 (fun l x => l.le x = true) lo d ∧ All2 (fun x h => x.le h = true) d hi
  | .discrete n, v => ∃ x, tryCast v = some ([], [x]) ∧ IsIndex isInt x n
  | .multiBinary sh, v => ∃ d, tryCast v = some (sh, d) ∧ ∀ x, x ∈ d → IsBit x
  | .multiDiscrete nvec, v => ∃ d, tryCast v = some ([nvec.length], d) ∧ All2 (IsIndex isInt) d nvec
  | .dict fs, v => ∃ kvs, v = .odict kvs ∧ (∀ k, k ∈ keys fs ↔ k ∈ keys kvs) ∧ MemFields fs kvs
  | .tuple ss, v => ∃ xs, v = .tuple xs ∧ MemList ss xs
/-- every declared key is present and its value is a member of the key's space -/
def MemFields : List (String × Space α) → List (String × Val α) → Prop
  | [], _ => True
  | (k, s) :: fs, kvs => (∃ x, kvs.lookup k = some x ∧ Mem s x) ∧ MemFields fs kvs
def MemList : List (Space α) → List (Val α) → Prop
  | [], [] => True
  | s :: ss, x :: xs => Mem s x ∧ MemList ss xs
  | _, _ => False
end

end Contains

/-! ## Well-formedness -/

section WF
variable {α : Type} [Zero α] [LE α] [LT α] [DecidableLE α] [DecidableLT α]

/-- a lower bound: finite or `-inf` -/
def Num.isLow : Num α → Bool
  | .fin _ => true | .nzero => true | .ninf => true | _ => false
/-- an upper bound: finite or `+inf` -/
def Num.isHigh : Num α → Bool
  | .fin _ => true | .nzero => true | .pinf => true | _ => false

def boundsOk : List (Num α) → List (Num α) → Bool
  | [], [] => true
  | l :: ls, h :: hs => l.isLow && h.isHigh && l.le h && boundsOk ls hs
  | _, _ => false

def nodupKeys : List String → Bool
  | [] => true
  | k :: ks => !ks.contains k && nodupKeys ks

mutual
/-- what the constructors assert (`n > 0`, positive dimensions, non-empty `nvec` / tuple, distinct
    keys) plus, for `Box` (whose constructor checks nothing): bounds broadcast to `shape`, no NaN
    bound, `low ≠ +inf`, `high ≠ -inf`, `low <= high` -/
def wellFormed : Space α → Bool
  | .box sh lo hi => lo.length == prod sh && boundsOk lo hi
  | .discrete n => decide (0 < n)
  | .multiBinary sh => sh.all (fun d => decide (0 < d))
  | .multiDiscrete nvec => !nvec.isEmpty && nvec.all (fun n => decide (0 < n))
  | .dict fs => nodupKeys (keys fs) && wellFormedFields fs
  | .tuple ss => !ss.isEmpty && wellFormedList ss
def wellFormedFields : List (String × Space α) → Bool
  | [] => true
  | (_, s) :: fs => wellFormed s && wellFormedFields fs
def wellFormedList : List (Space α) → Bool
  | [] => true
  | s :: ss => wellFormed s && wellFormedList ss
end

end WF

/-! ## `sample` (oracle draws), `canonical` -/

/-- the random draws one `sample` call consumes, observed from the implementation -/
inductive Draw (α : Type) where
  | box (us es zs : List α)   -- per entry: `uniform`∈[0,1), `exponential`≥0, `normal`
  | index (i : Nat)           -- `Discrete`: the index returned by `jr.choice`
  | bits (bs : List Bool)     -- `MultiBinary`: `jr.bernoulli`
  | indices (ix : List Nat)   -- `MultiDiscrete`: `jr.randint`
  | node (ds : List (Draw α)) -- `Dict`/`Tuple`: one sub-draw per component (split keys)
  deriving Inhabited

section Sample
variable {α : Type} [Zero α] [One α] [Add α] [Sub α] [Mul α] [Div α] [LE α] [LT α]
  [DecidableLE α] [DecidableLT α] [NatCast α]

/-- one entry of `Box.sample`: uniform when bounded, normal when unbounded, shifted exponential
    when bounded on one side -/
def sampleEntry (lo hi : Num α) (u e z : α) : Num α :=
  match lo.fin?, hi.fin? with
  | some l, some h => .fin (l + u * (h - l))
  | none, none => .fin z
  | none, some h => .fin (h - e)
  | some l, none => .fin (l + e)

def sampleBox : List (Num α) → List (Num α) → List α → List α → List α → List (Num α)
  | l :: ls, h :: hs, u :: us, e :: es, z :: zs => sampleEntry l h u e z :: sampleBox ls hs us es zs
  | _, _, _, _, _ => []

def ofBit (b : Bool) : Num α := if b then .fin 1 else .fin 0

mutual
def sample : Space α → Draw α → Val α
  | .box sh lo hi, .box us es zs => .arr sh (sampleBox lo hi us es zs)
  | .discrete _, .index i => .arr [] [.fin (Nat.cast i : α)]
  | .multiBinary sh, .bits bs => .arr sh (bs.map ofBit)
  | .multiDiscrete nvec, .indices ix => .arr [nvec.length] (ix.map (fun (i : Nat) => Num.fin (Nat.cast i : α)))
  | .dict fs, .node ds => .odict (sampleFields fs ds)
  | .tuple ss, .node ds => .tuple (sampleList ss ds)
  | _, _ => .foreign
def sampleFields : List (String × Space α) → List (Draw α) → List (String × Val α)
  | (k, s) :: fs, d :: ds => (k, sample s d) :: sampleFields fs ds
  | _, _ => []
def sampleList : List (Space α) → List (Draw α) → List (Val α)
  | s :: ss, d :: ds => sample s d :: sampleList ss ds
  | _, _ => []
end

/-- `p = mask / jnp.sum(mask)` handed to `jr.choice` by `Discrete.sample` -/
def choiceProbs (mask : List Bool) : List α :=
  let w : List α := mask.map (fun b => if b then 1 else 0)
  w.map (fun x => x / w.sum)

/-- range of the draws: what `jax.random` promises -/
def boxDrawsOk (n : Nat) (us es zs : List α) : Prop :=
  us.length = n ∧ es.length = n ∧ zs.length = n ∧
  (∀ u, u ∈ us → (0 : α) ≤ u ∧ u < 1) ∧ (∀ e, e ∈ es → (0 : α) ≤ e)

mutual
def DrawOk : Space α → Draw α → Prop
  | .box _ lo _, .box us es zs => boxDrawsOk lo.length us es zs
  | .discrete n, .index i => i < n
  | .multiBinary sh, .bits bs => bs.length = prod sh
  | .multiDiscrete nvec, .indices ix => All2 (fun i n => i < n) ix nvec
  | .dict fs, .node ds => DrawOkFields fs ds
  | .tuple ss, .node ds => DrawOkList ss ds
  | _, _ => False
def DrawOkFields : List (String × Space α) → List (Draw α) → Prop
  | [], [] => True
  | (_, s) :: fs, d :: ds => DrawOk s d ∧ DrawOkFields fs ds
  | _, _ => False
def DrawOkList : List (Space α) → List (Draw α) → Prop
  | [], [] => True
  | s :: ss, d :: ds => DrawOk s d ∧ DrawOkList ss ds
  | _, _ => False
end

/-- `jnp.clip(0, lo, hi) = minimum(maximum(0, lo), hi)` on extended reals (no NaN) -/
def clipZero (lo hi : Num α) : Num α :=
  let m := if (Num.fin (0 : α)).le lo then lo else .fin 0
  if m.le hi then m else hi

/-- one entry of `Box.canonical` (repaired): midpoint of finite bounds, else 0 clipped -/
def canonicalEntry (lo hi : Num α) : Num α :=
  match lo.fin?, hi.fin? with
  | some l, some h => .fin ((l + h) / (1 + 1))
  | _, _ => clipZero lo hi

def canonicalBox : List (Num α) → List (Num α) → List (Num α)
  | l :: ls, h :: hs => canonicalEntry l h :: canonicalBox ls hs
  | _, _ => []

mutual
def canonical : Space α → Val α
  | .box sh lo hi => .arr sh (canonicalBox lo hi)
  | .discrete _ => .arr [] [.fin 0]
  | .multiBinary sh => .arr sh (List.replicate (prod sh) (.fin 0))
  | .multiDiscrete nvec => .arr [nvec.length] (List.replicate nvec.length (.fin 0))
  | .dict fs => .odict (canonicalFields fs)
  | .tuple ss => .tuple (canonicalList ss)
def canonicalFields : List (String × Space α) → List (String × Val α)
  | [] => []
  | (k, s) :: fs => (k, canonical s) :: canonicalFields fs
def canonicalList : List (Space α) → List (Val α)
  | [] => []
  | s :: ss => canonical s :: canonicalList ss
end

end Sample

/-! ## `flatten_sample`, `flat_size`, and the decoder showing the flat vector determines the sample -/

section Flatten
variable {α : Type}

def leafFlatten (v : Val α) : List (Num α) :=
  match tryCast v with
  | some (_, d) => d
  | none => []

mutual
def flatSize : Space α → Nat
  | .box sh _ _ => prod sh
  | .discrete _ => 1
  | .multiBinary sh => prod sh
  | .multiDiscrete nvec => nvec.length
  | .dict fs => flatSizeFields fs
  | .tuple ss => flatSizeList ss
def flatSizeFields : List (String × Space α) → Nat
  | [] => 0
  | (_, s) :: fs => flatSize s + flatSizeFields fs
def flatSizeList : List (Space α) → Nat
  | [] => 0
  | s :: ss => flatSize s + flatSizeList ss
end

mutual
/-- `space.flatten_sample(x)` (`jnp.asarray(x, dtype=float).ravel()` at the leaves, parts
    concatenated in the space's own order) -/
def flatten : Space α → Val α → List (Num α)
  | .box _ _ _, v => leafFlatten v
  | .discrete _, v => leafFlatten v
  | .multiBinary _, v => leafFlatten v
  | .multiDiscrete _, v => leafFlatten v
  | .dict fs, .odict kvs => flattenFields fs kvs
  | .dict _, _ => []
  | .tuple ss, .tuple xs => flattenList ss xs
  | .tuple _, _ => []
def flattenFields : List (String × Space α) → List (String × Val α) → List (Num α)
  | [], _ => []
  | (k, s) :: fs, kvs =>
      (match kvs.lookup k with
       | some x => flatten s x
       | none => []) ++ flattenFields fs kvs
def flattenList : List (Space α) → List (Val α) → List (Num α)
  | s :: ss, x :: xs => flatten s x ++ flattenList ss xs
  | _, _ => []
end

mutual
/-- decoder: rebuilds the (normal form of the) sample from its flat vector -/
def unflatten : Space α → List (Num α) → Val α
  | .box sh _ _, d => .arr sh d
  | .discrete _, d => .arr [] d
  | .multiBinary sh, d => .arr sh d
  | .multiDiscrete nvec, d => .arr [nvec.length] d
  | .dict fs, d => .odict (unflattenFields fs d)
  | .tuple ss, d => .tuple (unflattenList ss d)
def unflattenFields : List (String × Space α) → List (Num α) → List (String × Val α)
  | [], _ => []
  | (k, s) :: fs, d => (k, unflatten s (d.take (flatSize s))) :: unflattenFields fs (d.drop (flatSize s))
def unflattenList : List (Space α) → List (Num α) → List (Val α)
  | [], _ => []
  | s :: ss, d => unflatten s (d.take (flatSize s)) :: unflattenList ss (d.drop (flatSize s))
end

def leafNormalize (v : Val α) : Val α :=
  match tryCast v with
  | some (sh, d) => .arr sh d
  | none => .foreign

mutual
/-- normal form of a sample: array-likes as arrays, dict items in the space's key order -/
def normalize : Space α → Val α → Val α
  | .box _ _ _, v => leafNormalize v
  | .discrete _, v => leafNormalize v
  | .multiBinary _, v => leafNormalize v
  | .multiDiscrete _, v => leafNormalize v
  | .dict fs, .odict kvs => .odict (normalizeFields fs kvs)
  | .dict _, _ => .foreign
  | .tuple ss, .tuple xs => .tuple (normalizeList ss xs)
  | .tuple _, _ => .foreign
def normalizeFields : List (String × Space α) → List (String × Val α) → List (String × Val α)
  | [], _ => []
  | (k, s) :: fs, kvs =>
      (k, match kvs.lookup k with
          | some x => normalize s x
          | none => .foreign) :: normalizeFields fs kvs
def normalizeList : List (Space α) → List (Val α) → List (Val α)
  | s :: ss, x :: xs => normalize s x :: normalizeList ss xs
  | _, _ => []
end

end Flatten

/-! ## `__eq__`, `__hash__` -/

section Eq
variable {α : Type} [Zero α] [LE α] [LT α] [DecidableLE α] [DecidableLT α]

/-- `jnp.array_equal` on the data of two equal-shaped arrays -/
def allEqv : List (Num α) → List (Num α) → Bool
  | [], [] => true
  | a :: as, b :: bs => a.eqv b && allEqv as bs
  | _, _ => false

mutual
/-- `space == other` (repaired `Tuple.__eq__` / `Dict.__eq__`: equal length, pairwise equal, keys
    compared in order) -/
def beq : Space α → Space α → Bool
  | .box sh lo hi, .box sh' lo' hi' => sh == sh' && allEqv lo lo' && allEqv hi hi'
  | .discrete n, .discrete m => n == m
  | .multiBinary sh, .multiBinary sh' => sh == sh'
  | .multiDiscrete nv, .multiDiscrete nv' => nv == nv'
  | .dict fs, .dict gs => beqFields fs gs
  | .tuple ss, .tuple ts => beqList ss ts
  | _, _ => false
def beqFields : List (String × Space α) → List (String × Space α) → Bool
  | [], [] => true
  | (k, s) :: fs, (k', t) :: gs => k == k' && beq s t && beqFields fs gs
  | _, _ => false
def beqList : List (Space α) → List (Space α) → Bool
  | [], [] => true
  | s :: ss, t :: ts => beq s t && beqList ss ts
  | _, _ => false
end

/-- the Python object whose `hash` is returned by `__hash__` (equal keys ⇒ equal hashes) -/
inductive HKey (α : Type) where
  | nat (n : Nat)
  | nats (ns : List Nat)
  | box (sh : List Nat) (lo hi : List (Num α))
  | node (ks : List (HKey α))
  | fields (kvs : List (String × HKey α))
  deriving Repr

mutual
def hashKey : Space α → HKey α
  | .box sh lo hi => .box sh (lo.map Num.canon) (hi.map Num.canon)
  | .discrete n => .nat n
  | .multiBinary sh => .nats sh
  | .multiDiscrete nv => .nats nv
  | .dict fs => .fields (hashKeyFields fs)
  | .tuple ss => .node (hashKeyList ss)
def hashKeyFields : List (String × Space α) → List (String × HKey α)
  | [] => []
  | (k, s) :: fs => (k, hashKey s) :: hashKeyFields fs
def hashKeyList : List (Space α) → List (HKey α)
  | [] => []
  | s :: ss => hashKey s :: hashKeyList ss
end

mutual
/-- "equal structure and parameters": the space with the sign of zero bounds forgotten -/
def canonSpace : Space α → Space α
  | .box sh lo hi => .box sh (lo.map Num.canon) (hi.map Num.canon)
  | .discrete n => .discrete n
  | .multiBinary sh => .multiBinary sh
  | .multiDiscrete nv => .multiDiscrete nv
  | .dict fs => .dict (canonSpaceFields fs)
  | .tuple ss => .tuple (canonSpaceList ss)
def canonSpaceFields : List (String × Space α) → List (String × Space α)
  | [] => []
  | (k, s) :: fs => (k, canonSpace s) :: canonSpaceFields fs
def canonSpaceList : List (Space α) → List (Space α)
  | [] => []
  | s :: ss => canonSpace s :: canonSpaceList ss
end

end Eq

/-! ## Gymnasium round trip -/

/-- the Gymnasium spaces the converters know -/
inductive GSpace (α : Type) where
  | box (shape : List Nat) (low high : List (Num α))
  | discrete (n : Nat) (start : Int)
  | multiBinaryInt (n : Nat)
  | multiBinaryTup (shape : List Nat)
  | multiDiscrete (nvec : List Nat)
  | dict (fields : List (String × GSpace α))   -- in Gymnasium's stored order
  | tuple (items : List (GSpace α))
  deriving Repr, Inhabited

section Gym
variable {α : Type}

/-- insertion into a key-sorted association list (stable) -/
def insertKey {β : Type} (k : String) (v : β) : List (String × β) → List (String × β)
  | [] => [(k, v)]
  | (k', v') :: rest => if k' < k then (k', v') :: insertKey k v rest else (k, v) :: (k', v') :: rest

/-- `dict(sorted(spaces.items()))` — what `gymnasium.spaces.Dict.__init__` does to a plain dict -/
def sortKeysL {β : Type} : List (String × β) → List (String × β)
  | [] => []
  | (k, v) :: rest => insertKey k v (sortKeysL rest)

mutual
/-- `lerax_to_gym_space` -/
def toGym : Space α → GSpace α
  | .box sh lo hi => .box sh lo hi
  | .discrete n => .discrete n 0
  | .multiBinary sh => match sh with
      | [n] => .multiBinaryInt n
      | _ => .multiBinaryTup sh
  | .multiDiscrete nv => .multiDiscrete nv
  | .dict fs => .dict (sortKeysL (toGymFields fs))
  | .tuple ss => .tuple (toGymList ss)
def toGymFields : List (String × Space α) → List (String × GSpace α)
  | [] => []
  | (k, s) :: fs => (k, toGym s) :: toGymFields fs
def toGymList : List (Space α) → List (GSpace α)
  | [] => []
  | s :: ss => toGym s :: toGymList ss
end

mutual
/-- `gym_space_to_lerax_space`; `none` = `NotImplementedError` (non-zero `start`) -/
def ofGym : GSpace α → Option (Space α)
  | .box sh lo hi => some (.box sh lo hi)
  | .discrete n start => if start = 0 then some (.discrete n) else none
  | .multiBinaryInt n => some (.multiBinary [n])
  | .multiBinaryTup sh => some (.multiBinary sh)
  | .multiDiscrete nv => some (.multiDiscrete nv)
  | .dict gs => match ofGymFields gs with
      | some fs => some (.dict fs)
      | none => none
  | .tuple gs => match ofGymList gs with
      | some ss => some (.tuple ss)
      | none => none
def ofGymFields : List (String × GSpace α) → Option (List (String × Space α))
  | [] => some []
  | (k, g) :: gs => match ofGym g, ofGymFields gs with
      | some s, some fs => some ((k, s) :: fs)
      | _, _ => none
def ofGymList : List (GSpace α) → Option (List (Space α))
  | [] => some []
  | g :: gs => match ofGym g, ofGymList gs with
      | some s, some ss => some (s :: ss)
      | _, _ => none
end

mutual
/-- the space with every Dict's keys in Gymnasium's order -/
def sortKeys : Space α → Space α
  | .box sh lo hi => .box sh lo hi
  | .discrete n => .discrete n
  | .multiBinary sh => .multiBinary sh
  | .multiDiscrete nv => .multiDiscrete nv
  | .dict fs => .dict (sortKeysL (sortKeysFields fs))
  | .tuple ss => .tuple (sortKeysList ss)
def sortKeysFields : List (String × Space α) → List (String × Space α)
  | [] => []
  | (k, s) :: fs => (k, sortKeys s) :: sortKeysFields fs
def sortKeysList : List (Space α) → List (Space α)
  | [] => []
  | s :: ss => sortKeys s :: sortKeysList ss
end

end Gym

/-! ## Executable Φ, decided by the driver on the implementation's answers -/

section Phi
variable {α : Type} [Zero α] [One α] [LE α] [LT α] [DecidableLE α] [DecidableLT α] [NatCast α]
variable (isInt : α → Bool)

/-- `contains` answered with a scalar boolean that is true exactly for members -/
def phiContains (s : Space α) (v : Val α) (impl : CResult) : Bool :=
  impl == .scalar (contains isInt s v)

/-- the mask allows the drawn index (only `Discrete` honours a mask) -/
def maskAllows (mask : Option (List Bool)) (v : Val α) : Bool :=
  match mask, v with
  | none, _ => true
  | some m, .arr [] [x] =>
      (List.range m.length).any (fun i => m.getD i false && x.eqv (.fin (Nat.cast i : α)))
  | some _, _ => false

/-- a sample / canonical element returned by the implementation is a member -/
def phiMember (s : Space α) (mask : Option (List Bool)) (v : Val α) : Bool :=
  contains isInt s v && maskAllows mask v

mutual
def Val.eqv : Val α → Val α → Bool
  | .arr sh d, .arr sh' d' => sh == sh' && allEqv d d'
  | .tuple xs, .tuple ys => Val.eqvList xs ys
  | .list xs, .list ys => Val.eqvList xs ys
  | .odict kvs, .odict kvs' => Val.eqvFields kvs kvs'
  | .pdict kvs, .pdict kvs' => Val.eqvFields kvs kvs'
  | .foreign, .foreign => true
  | _, _ => false
def Val.eqvList : List (Val α) → List (Val α) → Bool
  | [], [] => true
  | x :: xs, y :: ys => Val.eqv x y && Val.eqvList xs ys
  | _, _ => false
def Val.eqvFields : List (String × Val α) → List (String × Val α) → Bool
  | [], [] => true
  | (k, x) :: xs, (k', y) :: ys => k == k' && Val.eqv x y && Val.eqvFields xs ys
  | _, _ => false
end

/-- `flatten_sample` returned `flat_size` numbers from which the decoder rebuilds the sample -/
def phiFlatten (s : Space α) (v : Val α) (flat : List (Num α)) : Bool :=
  flat.length == flatSize s && (unflatten s flat).eqv (normalize s v)

/-- `==` is exact, and equal spaces hash equally -/
def phiEq (s t : Space α) (implEq : Bool) (implHashEq : Bool) : Bool :=
  implEq == beq s t && (!implEq || implHashEq)

/-- the space that came back from Gymnasium equals the original with keys in Gymnasium's order -/
def phiGym (s back : Space α) : Bool := beq back (sortKeys s)

end Phi

/-! ## Pre-repair behaviour (refuted in `LeraxProofs/C14.lean`) -/

section Legacy
variable {α : Type} [Zero α] [One α] [Add α] [Div α] [LE α] [LT α] [DecidableLE α] [DecidableLT α] [NatCast α]
variable (isInt : α → Bool)

/-- old `MultiDiscrete.contains`: `jnp.all(x < nvec)` only -/
def legacyAllBelow : List (Num α) → List Nat → Bool
  | [], [] => true
  | x :: xs, n :: ns => x.ltNat n && legacyAllBelow xs ns
  | _, _ => false
def legacyMultiDiscreteContains (nvec : List Nat) (v : Val α) : Bool :=
  match tryCast v with
  | none => false
  | some (xs, d) => xs == [nvec.length] && d.all (Num.integral isInt) && legacyAllBelow d nvec

/-- old `MultiBinary.contains`: `jnp.all(…, axis=0)` leaves the trailing axes -/
def legacyMultiBinaryContainsR (sh : List Nat) (v : Val α) : CResult :=
  match tryCast v with
  | none => .scalar false
  | some (xs, d) =>
      if xs == sh then
        (match sh with
         | _ :: (r :: rest) => .array (r :: rest)
         | _ => .scalar (d.all isBit))
      else .scalar false

/-- old `try_cast`: only `TypeError` was caught; ragged nesting and `None` raise `ValueError`,
    oversized integers `OverflowError` -/
def legacyLeafContainsR (isRaggedOrNone : Bool) (answer : Bool) : CResult :=
  if isRaggedOrNone then .raised "ValueError" else .scalar answer

/-- old `Tuple.__eq__`: `all(a == b for a, b in zip(…))` — truncates to the shorter tuple -/
def legacyBeqList (eq : Space α → Space α → Bool) : List (Space α) → List (Space α) → Bool
  | s :: ss, t :: ts => eq s t && legacyBeqList eq ss ts
  | _, _ => true

/-- old `Dict.__eq__`: `isinstance(other, OrderedDict)` is false for every `Dict` -/
def legacyDictBeq (_fs _gs : List (String × Space α)) : Bool := false

/-- old `Dict.__hash__`: `hash(odict_items)` raises `TypeError` -/
def legacyDictHash (_fs : List (String × Space α)) : Option (HKey α) := none

/-- old `Box.__hash__`: the raw bytes, which distinguish `-0.0` from `0.0` -/
def legacyBoxHashKey (sh : List Nat) (lo hi : List (Num α)) : HKey α := .box sh lo hi

/-- old `Box.canonical`: `(low + high) / 2` in IEEE arithmetic -/
def legacyCanonicalEntry (lo hi : Num α) : Num α :=
  match lo, hi with
  | .nan, _ => .nan
  | _, .nan => .nan
  | .pinf, .ninf => .nan
  | .ninf, .pinf => .nan
  | .pinf, _ => .pinf
  | _, .pinf => .pinf
  | .ninf, _ => .ninf
  | _, .ninf => .ninf
  | a, b => match a.fin?, b.fin? with
      | some l, some h => .fin ((l + h) / (1 + 1))
      | _, _ => .nan

/-- old `Dict.flatten_sample`: `jnp.concatenate([])` raises for a Dict without keys -/
def legacyDictFlattenLength (fs : List (String × Space α)) : Option Nat :=
  if fs.isEmpty then none else some (flatSizeFields fs)

end Legacy

end Lerax.Space
